import CircBuf.Lemmas.Views
/-! `make_contiguous`: a window that wraps is rotated left by `start`, so that position `i` sits in slot `i`; one that
does not is left where it is. -/
namespace CircBuf

theorem makeContiguous_spec (s : Sys) (h : Inv s.buf) :
    ∃ b' v, makeContiguous s = (.ok v, { s with buf := b' }) ∧ Inv b' ∧ abs b' = abs s.buf ∧
      b'.cap = s.buf.cap ∧ b'.size = s.buf.size ∧
      v.slots = windowSlots b'.start b'.cap b'.size ∧
      (b'.start + b'.size ≤ b'.cap) ∧
      (s.buf.start + s.buf.size ≤ s.buf.cap → b' = s.buf) := by
  have hsz := h.size_le
  have hW := h.cap_lt
  by_cases hz : s.buf.cap = 0 ∨ s.buf.size = 0
  · refine ⟨s.buf, View.empty, ?_, h, rfl, rfl, rfl, ?_, by have := h.start_lt; omega, fun _ => rfl⟩
    · mrun [makeContiguous]
    · rw [show s.buf.size = 0 by omega]; rfl
  have hcpos : 0 < s.buf.cap := by omega
  have hst := h.start_lt' hcpos
  by_cases hfit : s.buf.size ≤ s.buf.cap - s.buf.start
  · have hle : s.buf.start + s.buf.size ≤ s.buf.cap := by omega
    refine ⟨s.buf, ⟨s.buf.start, s.buf.size⟩, ?_, h, rfl, rfl, rfl, (windowSlots_of_le hle).symm, hle,
      fun _ => rfl⟩
    mrun [makeContiguous]
  · -- `rotate_left(start)` brings the front element to slot 0
    obtain ⟨hI, hA⟩ := inv_abs_of ⟨s.buf.cap, s.buf.size, 0, rotl s.buf.items s.buf.cap s.buf.start⟩
      (abs s.buf) hW (abs_length s.buf h) hsz (Or.inl hcpos) fun i hi => by
        have hic : i < s.buf.cap := by have := abs_length s.buf h; omega
        simp only [phys_zero_left _ _ hic, rotl, hic, if_true, Nat.add_comm i]
        exact abs_getElem s.buf h i hi
    have hle : 0 + s.buf.size ≤ s.buf.cap := by omega
    refine ⟨_, ⟨0, s.buf.size⟩, ?_, hI, hA, rfl, rfl, (windowSlots_of_le hle).symm, hle,
      fun hc => by omega⟩
    mrun [makeContiguous, setStart_run, setItems_run]

end CircBuf

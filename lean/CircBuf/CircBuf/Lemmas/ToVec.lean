import CircBuf.Lemmas.Ctor
/-! `to_vec()` and `boxed()`. -/
namespace CircBuf

theorem toVecLoop_run (l : List Elem) (acc : List Elem) (s : Sys) (hc : s.faults.clone = 0) :
    toVecLoop acc l s = (.ok (acc.reverse ++ cloneList s.kind s.next l),
      { s with next := s.next + cloneCount s.kind l.length, log := cloneLog s.kind s.next l ++ s.log }) := by
  induction l generalizing acc s with
  | nil => simp [toVecLoop, cloneList, cloneLog, cloneCount]
  | cons e rest ih =>
    simp only [toVecLoop, ↓bind_run, onPanic, cloneElem_run' s e hc]
    rw [ih _ _ (by exact hc), cloneLog_cons _ _ e rest]
    simp only [List.reverse_cons, List.append_assoc, List.singleton_append, ← cloneList_cons,
      List.length_cons, Nat.add_comm rest.length, cloneCount_add, Nat.add_assoc]

/-- `to_vec()`: the clones of the contents, oldest first; the buffer is only read; at most one
allocation (none for an empty buffer) -/
theorem toVec_spec (s : Sys) (h : Inv s.buf) (hc : s.faults.clone = 0) :
    ∃ s', toVec s = (.ok (cloneList s.kind s.next (abs s.buf)), s') ∧ s'.buf = s.buf ∧
      s'.next = s.next + cloneCount s.kind s.buf.size ∧
      s'.log = cloneLog s.kind s.next (abs s.buf) ++
        ((if s.buf.size > 0 ∧ s.kind ≠ .zst then [Event.alloc] else []) ++ s.log) := by
  have hlen := abs_length s.buf h
  generalize hL : (if s.buf.size > 0 ∧ s.kind ≠ .zst then [Event.alloc] else []) = L
  have hpre : (if 0 < s.buf.size ∧ s.kind ≠ .zst then emit .alloc else pure ()) s
      = (.ok (), { s with log := L ++ s.log }) := by
    subst hL; split <;> simp [emit]
  have hit := iterSlots_run { s with log := L ++ s.log } h
  have hrd := readAll_window { s with log := L ++ s.log } h
  have hlp := toVecLoop_run (abs s.buf) [] { s with log := L ++ s.log } hc
  refine ⟨_, by mrun [toVec, ite_bind_unit, hpre, hit, hrd, hlp, cloneList_length, List.reverse_nil, List.nil_append]; rfl,
    ?_⟩
  exact ⟨rfl, by simp only [hlen], rfl⟩

/-- `boxed()`: exactly one allocation, an empty valid buffer of the same capacity -/
theorem boxed_spec (s : Sys) (hW : s.buf.cap < W) :
    ∃ s', boxed s = (.ok (), s') ∧ Inv s'.buf ∧ abs s'.buf = [] ∧ s'.buf.cap = s.buf.cap ∧
      s'.log = Event.alloc :: s.log := by
  obtain ⟨hI, hA⟩ := inv_new' s.buf.cap hW
  refine ⟨{ s with buf := CB.new s.buf.cap, log := Event.alloc :: s.log }, ?_, hI, hA, rfl, rfl⟩
  simp [boxed, emit, bind_run, getBuf_run, setBuf_run]

end CircBuf

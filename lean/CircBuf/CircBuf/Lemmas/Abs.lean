import CircBuf.Lemmas.Run
/-!
  The abstraction function pointwise (`inv_abs_of`: how every post-buffer is described), the algebra of
  `phys`, what the two ends and a stretch of the window hold, and memmoves that do not wrap read in logical
  coordinates (`Shifts`: one `ptr::copy`, adjacent moves, closing a gap).
-/
namespace CircBuf

theorem map_some_filterMap_range (n : Nat) (f : Nat → Option α)
    (h : ∀ i, i < n → (f i).isSome = true) :
    ((List.range n).filterMap f).map some = (List.range n).map f := by
  rw [List.map_filterMap_some_eq_filter_map_isSome, List.filter_eq_self]
  intro o ho
  obtain ⟨i, hi, rfl⟩ := List.mem_map.1 ho
  exact h i (List.mem_range.1 hi)

theorem filterMap_range_length (n : Nat) (f : Nat → Option α)
    (h : ∀ i, i < n → (f i).isSome = true) : ((List.range n).filterMap f).length = n := by
  simpa using congrArg List.length (map_some_filterMap_range n f h)

theorem filterMap_range_getElem? (n : Nat) (f : Nat → Option α)
    (h : ∀ i, i < n → (f i).isSome = true) (i : Nat) (hi : i < n) :
    ((List.range n).filterMap f)[i]? = f i := by
  have := congrArg (·[i]?) (map_some_filterMap_range n f h)
  simp only [List.getElem?_map, List.getElem?_range hi, Option.map_some] at this
  cases hl : ((List.range n).filterMap f)[i]? with
  | none => rw [hl] at this; cases this
  | some v => rw [hl] at this; exact Option.some.inj this

theorem filterMap_range_eq (n : Nat) (f : Nat → Option α) (xs : List α) (hlen : xs.length = n)
    (h : ∀ i, (hi : i < xs.length) → f i = some xs[i]) : (List.range n).filterMap f = xs := by
  subst hlen
  have hsome : ∀ i, i < xs.length → (f i).isSome = true := fun i hi => by rw [h i hi]; rfl
  refine List.ext_getElem? fun i => ?_
  by_cases hi : i < xs.length
  · rw [filterMap_range_getElem? _ _ hsome i hi, h i hi, List.getElem?_eq_getElem hi]
  · rw [List.getElem?_eq_none (by rw [filterMap_range_length _ _ hsome]; omega),
      List.getElem?_eq_none (by omega)]

theorem abs_eq_of (b : CB) (xs : List Elem) (hlen : xs.length = b.size)
    (h : ∀ i, (hi : i < xs.length) → b.items (phys b.start b.cap i) = some xs[i]) : abs b = xs :=
  filterMap_range_eq b.size _ xs hlen h

theorem abs_length (b : CB) (h : Inv b) : (abs b).length = b.size :=
  filterMap_range_length _ _ h.live

theorem abs_getElem? (b : CB) (h : Inv b) (i : Nat) (hi : i < b.size) :
    (abs b)[i]? = b.items (phys b.start b.cap i) :=
  filterMap_range_getElem? _ _ h.live i hi

theorem abs_getElem (b : CB) (h : Inv b) (i : Nat) (hi : i < (abs b).length) :
    b.items (phys b.start b.cap i) = some (abs b)[i] := by
  have := abs_getElem? b h i (by rw [abs_length b h] at hi; exact hi)
  rw [← this, List.getElem?_eq_getElem hi]

theorem inv_abs_of (b : CB) (xs : List Elem) (hW : b.cap < W) (hlen : xs.length = b.size)
    (hsz : b.size ≤ b.cap) (hst : b.start < b.cap ∨ (b.cap = 0 ∧ b.start = 0))
    (h : ∀ i, (hi : i < xs.length) → b.items (phys b.start b.cap i) = some xs[i]) :
    Inv b ∧ abs b = xs := by
  refine ⟨⟨hsz, hst, hW, ?_⟩, abs_eq_of b xs hlen h⟩
  intro i hi
  rw [h i (by omega)]; rfl

theorem phys_phys (s c k i : Nat) : phys (phys s c k) c i = phys s c (k + i) := by
  unfold phys; rw [Nat.mod_add_mod, Nat.add_assoc]

theorem phys_zero (s c : Nat) (hs : s < c) : phys s c 0 = s := Nat.mod_eq_of_lt hs

theorem phys_cap (s c : Nat) (hs : s < c) : phys s c c = s := by
  unfold phys; rw [Nat.add_mod_right]; exact Nat.mod_eq_of_lt hs

theorem phys_ne (s c i j : Nat) (hs : s < c) (hi : i < c) (hj : j < c) (h : i ≠ j) :
    phys s c i ≠ phys s c j := fun he => h (phys_inj s c i j hs hi hj he)

theorem phys_add_cap (s c k : Nat) : phys s c (c + k) = phys s c k := by
  unfold phys
  have : s + (c + k) = s + k + c := by omega
  rw [this, Nat.add_mod_right]

/-- `phys s c (c - 1)` is the slot before the front (`start - 1`, wrapping): where `push_front` writes -/
theorem phys_pred_add (s c i : Nat) (hi : 0 < i) (hc : 0 < c) :
    phys s c (c - 1 + i) = phys s c (i - 1) := by
  have : c - 1 + i = c + (i - 1) := by omega
  rw [this, phys_add_cap]

theorem phys_zero_left (c x : Nat) (h : x < c) : phys 0 c x = x := by
  unfold phys; simp [Nat.mod_eq_of_lt h]

theorem phys_of_lt (s c x : Nat) (h : s + x < c) : phys s c x = s + x := Nat.mod_eq_of_lt h

theorem phys_of_ge (s c x : Nat) (h1 : c ≤ s + x) (h2 : s + x < c + c) : phys s c x = s + x - c := by
  unfold phys; rw [Nat.mod_eq_sub_mod h1]; exact Nat.mod_eq_of_lt (by omega)

theorem phys_ite (st cap i : Nat) (hc : st < cap) (hi : i ≤ cap) :
    phys st cap i = if st + i < cap then st + i else st + i - cap := by
  split
  · exact phys_of_lt _ _ _ ‹_›
  · exact phys_of_ge _ _ _ (by omega) (by omega)

theorem phys_add_of_lt (s c a t : Nat) (h : phys s c a + t < c) :
    phys s c (a + t) = phys s c a + t := by
  unfold phys at h ⊢
  rw [← Nat.add_assoc, ← Nat.mod_add_mod, Nat.mod_eq_of_lt h]

/-- a run of positions that starts at slot `dst` and ends before the array end sits in consecutive slots -/
theorem phys_run {s c a len dst : Nat} (h : dst + len ≤ c ∧ (s + a = dst ∨ s + a = dst + c)) :
    ∀ k, k < len → phys s c (a + k) = dst + k := by
  intro k hk
  unfold phys
  rcases h.2 with e | e
  · rw [← Nat.add_assoc, e]; exact Nat.mod_eq_of_lt (by omega)
  · rw [← Nat.add_assoc, e, Nat.add_right_comm, Nat.add_mod_right]; exact Nat.mod_eq_of_lt (by omega)

theorem phys_run_iff {s c a len dst i : Nat} (hs : s < c) (hi : i < c) (hal : a + len ≤ c)
    (hdst : ∀ k, k < len → phys s c (a + k) = dst + k) :
    (dst ≤ phys s c i ∧ phys s c i < dst + len) ↔ (a ≤ i ∧ i < a + len) := by
  constructor
  · intro ⟨h1, h2⟩
    have e := hdst (phys s c i - dst) (by omega)
    have := phys_inj s c _ _ hs (by omega) hi (e.trans (by omega))
    omega
  · intro ⟨h1, h2⟩
    have e := hdst (i - a) (by omega)
    rw [show a + (i - a) = i by omega] at e
    omega

theorem phys_surj (s c x : Nat) (hs : s < c) (hx : x < c) : ∃ i, i < c ∧ phys s c i = x := by
  by_cases h : s ≤ x
  · exact ⟨x - s, by omega, by rw [phys_of_lt _ _ _ (by omega)]; omega⟩
  · exact ⟨x + c - s, by omega, by rw [phys_of_ge _ _ _ (by omega) (by omega)]; omega⟩

@[simp] theorem setCell_same (f : Nat → Cell) (i : Nat) (c : Cell) : setCell f i c i = c := by
  simp [setCell]
theorem setCell_ne (f : Nat → Cell) (i j : Nat) (c : Cell) (h : j ≠ i) : setCell f i c j = f j := by
  simp [setCell, h]

theorem Inv.start_lt' {b : CB} (h : Inv b) (hc : 0 < b.cap) : b.start < b.cap := by
  rcases h.start_lt with h1 | ⟨h1, _⟩ <;> omega

theorem abs_eq_nil (b : CB) (h : Inv b) (hz : b.cap = 0 ∨ b.size = 0) : abs b = [] :=
  List.eq_nil_of_length_eq_zero (by have := abs_length b h; have := h.size_le; omega)

/-- `new()`, for every capacity below `2^64` (0 included) -/
theorem inv_new' (cap : Nat) (hc : cap < W) : Inv (CB.new cap) ∧ abs (CB.new cap) = [] := by
  refine ⟨⟨by simp [CB.new], ?_, hc, by intro i hi; simp [CB.new] at hi⟩, by simp [abs, CB.new]⟩
  by_cases h : cap = 0
  · right; simp [CB.new, h]
  · left; simp [CB.new]; omega

theorem getLast?_eq_of_length (xs : List α) (n : Nat) (hn : xs.length = n) (hpos : 0 < n) :
    xs.getLast? = some (xs[n - 1]'(by omega)) := by
  subst hn
  rw [List.getLast?_eq_getElem?]; exact List.getElem?_eq_getElem _

theorem front_cell (b : CB) (h : Inv b) (hs : 0 < b.size) :
    ∃ e, (abs b).head? = some e ∧ b.items b.start = some e := by
  have hlen := abs_length b h
  have hget := abs_getElem b h 0 (by omega)
  rw [phys_zero _ _ (h.start_lt' (by have := h.size_le; omega))] at hget
  exact ⟨_, by rw [List.head?_eq_getElem?]; exact List.getElem?_eq_getElem _, hget⟩

theorem back_cell (b : CB) (h : Inv b) (hs : 0 < b.size) :
    ∃ e, (abs b).getLast? = some e ∧ b.items (phys b.start b.cap (b.size - 1)) = some e := by
  have hlen := abs_length b h
  exact ⟨_, getLast?_eq_of_length _ _ hlen hs, abs_getElem b h _ (by omega)⟩

/-- a stretch of the contents is itself a buffer in the same storage -/
theorem inv_abs_window (b : CB) (h : Inv b) (a n : Nat) (hle : a + n ≤ b.size) :
    Inv ⟨b.cap, n, phys b.start b.cap a, b.items⟩ ∧
      abs ⟨b.cap, n, phys b.start b.cap a, b.items⟩ = ((abs b).drop a).take n := by
  have hlen : (((abs b).drop a).take n).length = n := by
    rw [List.length_take, List.length_drop, abs_length b h]; omega
  have hst : phys b.start b.cap a < b.cap ∨ (b.cap = 0 ∧ phys b.start b.cap a = 0) := by
    rcases h.start_lt with h1 | ⟨h1, h2⟩
    · exact .inl (phys_lt _ _ _ (Nat.zero_lt_of_lt h1))
    · have := h.size_le
      rw [h1, h2, show a = 0 by omega]; exact .inr ⟨rfl, rfl⟩
  refine inv_abs_of _ _ h.cap_lt hlen (Nat.le_trans (Nat.le_add_left ..) (Nat.le_trans hle h.size_le))
    hst fun i hi => ?_
  simp only [phys_phys, List.getElem_take, List.getElem_drop]
  exact abs_getElem b h (a + i) (by rw [abs_length b h]; omega)

theorem Inv.live_slot {b : CB} (h : Inv b) (t : Nat)
    (ht : (b.start ≤ t ∧ t < b.start + b.size ∧ t < b.cap) ∨ (t + b.cap < b.start + b.size)) :
    ∃ v, b.items t = some v := by
  have hs := h.size_le
  have hst := h.start_lt
  apply Option.isSome_iff_exists.mp
  rcases ht with ⟨h1, h2, h3⟩ | h1
  · have := h.live (t - b.start) (by omega)
    rwa [phys_of_lt _ _ _ (by omega), show b.start + (t - b.start) = t by omega] at this
  · have := h.live (t + b.cap - b.start) (by omega)
    rwa [phys_of_ge _ _ _ (by omega) (by omega), show b.start + (t + b.cap - b.start) - b.cap = t by omega] at this

/-- `g` is `f` with the logical positions `a ..< b` moved down by `d`: at the slot of a logical position
`g` holds what `f` held `d` positions further on, and nothing else has changed -/
def Shifts (s c : Nat) (f g : Nat → Cell) (a b d : Nat) : Prop :=
  (∀ i, i < c → g (phys s c i) = f (phys s c (if a ≤ i ∧ i < b then i + d else i))) ∧
    ∀ x, c ≤ x → g x = f x

theorem Shifts.refl (s c : Nat) (f : Nat → Cell) (a d : Nat) : Shifts s c f f a a d :=
  ⟨fun i _ => by rw [if_neg (by omega)], fun _ _ => rfl⟩

/-- adjacent runs moved by the same distance, the lower one first: the upper move still finds its
elements where `f` had them -/
theorem Shifts.trans {s c : Nat} {f g h : Nat → Cell} {a m b d : Nat} (h1 : Shifts s c f g a m d)
    (h2 : Shifts s c g h m b d) (ham : a ≤ m) (hmb : m ≤ b) (hb : b + d ≤ c) : Shifts s c f h a b d := by
  refine ⟨fun i hi => ?_, fun x hx => (h2.2 x hx).trans (h1.2 x hx)⟩
  rw [h2.1 i hi]
  by_cases c2 : m ≤ i ∧ i < b
  · rw [if_pos c2, h1.1 _ (by omega), if_neg (by omega), if_pos (by omega)]
  · rw [if_neg c2, h1.1 i hi]
    by_cases c1 : a ≤ i ∧ i < m
    · rw [if_pos c1, if_pos (by omega)]
    · rw [if_neg c1, if_neg (by omega)]

/-- `ptr::copy` of `len` elements from logical positions `a + d ..` to `a ..`, when neither run wraps
around the array end (`hdst`, `hsrc`: consecutive positions sit in consecutive slots) -/
theorem copy_shifts (f : Nat → Cell) (s c a d len src dst : Nat) (hs : s < c) (hal : a + len ≤ c)
    (hdst : ∀ k, k < len → phys s c (a + k) = dst + k)
    (hsrc : ∀ k, k < len → phys s c (a + d + k) = src + k) :
    Shifts s c f (copy f src dst len) a (a + len) d := by
  refine ⟨fun i hi => ?_, fun x hx => ?_⟩ <;> unfold copy
  · simp only [phys_run_iff hs hi hal hdst]
    by_cases h : a ≤ i ∧ i < a + len
    · have e1 := hdst (i - a) (by omega)
      have e2 := hsrc (i - a) (by omega)
      rw [show a + (i - a) = i by omega] at e1
      rw [show a + d + (i - a) = i + d by omega] at e2
      rw [if_pos h, if_pos h, e2]; congr 1; omega
    · rw [if_neg h, if_neg h]
  · rw [if_neg]
    intro ⟨h1, h2⟩
    have e1 := hdst (x - dst) (by omega)
    have := phys_lt s c (a + (x - dst)) (by omega)
    omega

/-- closing a gap: once the elements behind the logical positions `a ..< a + d` have moved down by `d`, the
buffer shortened by `d` holds what was before the gap followed by what was behind it -/
theorem Shifts.cut_spec {b : CB} {f' : Nat → Cell} {a d : Nat} (h : Inv b) (hc : 0 < b.cap)
    (had : a + d ≤ b.size) (hsh : Shifts b.start b.cap b.items f' a (b.size - d) d) :
    Inv ⟨b.cap, b.size - d, b.start, f'⟩ ∧
      abs ⟨b.cap, b.size - d, b.start, f'⟩ = (abs b).take a ++ (abs b).drop (a + d) := by
  have hlen := abs_length b h
  have hsz := h.size_le
  have hl1 : ((abs b).take a).length = a := by rw [List.length_take, hlen]; omega
  have hl2 : ((abs b).drop (a + d)).length = b.size - d - a := by rw [List.length_drop, hlen]; omega
  refine inv_abs_of _ _ h.cap_lt (by simp only [List.length_append, hl1, hl2]; omega)
    (Nat.le_trans (Nat.sub_le ..) hsz) (Or.inl (h.start_lt' hc)) fun i hi => ?_
  rw [List.length_append, hl1, hl2] at hi
  simp only
  rw [hsh.1 i (by omega), List.getElem_append]
  by_cases hlo : i < a
  · rw [if_neg (by omega), dif_pos (hl1.symm ▸ hlo), List.getElem_take]
    exact abs_getElem b h i (by omega)
  · rw [if_pos (by omega), dif_neg (hl1.symm ▸ hlo), List.getElem_drop, abs_getElem b h _ (by omega)]
    congr 2; rw [hl1]; omega

end CircBuf

import CircBuf.Lemmas.Backfill
import CircBuf.Lemmas.DropRange
import CircBuf.Lemmas.Iter
/-! `Drain`: creation, consumption from both ends, `Drop` (destroy the rest, close the hole). -/
namespace CircBuf

/-- what is known while a drain over the buffer `b0` is alive: the buffer pretends to be empty, the
storage is untouched, the cursors are ordered -/
structure DrainInv (b0 : CB) (d : Drain) (s : Sys) : Prop where
  inv0 : Inv b0
  buf_eq : s.buf = ⟨b0.cap, 0, b0.start, b0.items⟩
  bs : d.bufSize = b0.size
  h1 : d.rs ≤ d.is
  h2 : d.is ≤ d.ie
  h3 : d.ie ≤ d.re
  h4 : d.re ≤ d.bufSize

theorem Drain.new_spec (sb eb : Bound) (s : Sys) (h : Inv s.buf) (hsb : sb.val < W)
    (heb : eb.val < W) (he : eb.endNat s.buf.size ≤ s.buf.size)
    (hs : sb.startNat ≤ eb.endNat s.buf.size) :
    Drain.new sb eb s =
      (.ok ⟨s.buf.size, sb.startNat, eb.endNat s.buf.size, sb.startNat, eb.endNat s.buf.size⟩,
        { s with buf := ⟨s.buf.cap, 0, s.buf.start, s.buf.items⟩ }) ∧
    DrainInv s.buf ⟨s.buf.size, sb.startNat, eb.endNat s.buf.size, sb.startNat, eb.endNat s.buf.size⟩
      { s with buf := ⟨s.buf.cap, 0, s.buf.start, s.buf.items⟩ } := by
  have htr := translateRange_ok sb eb s hsb heb he hs (Nat.lt_of_le_of_lt h.size_le h.cap_lt)
  refine ⟨?_, ⟨h, rfl, rfl, Nat.le_refl _, hs, Nat.le_refl _, he⟩⟩
  mrun [Drain.new, htr, setSize_run]

namespace DrainInv
variable {b0 : CB} {d : Drain} {s : Sys}
theorem cap_eq (hd : DrainInv b0 d s) : s.buf.cap = b0.cap := by rw [hd.buf_eq]
theorem start_eq (hd : DrainInv b0 d s) : s.buf.start = b0.start := by rw [hd.buf_eq]
theorem items_eq (hd : DrainInv b0 d s) : s.buf.items = b0.items := by rw [hd.buf_eq]
theorem re_le (hd : DrainInv b0 d s) : d.re ≤ b0.size := hd.bs ▸ hd.h4
end DrainInv

/-- an index of the range that the iterator has passed is read from the untouched storage -/
theorem Drain.read_spec {b0 : CB} {d : Drain} {s : Sys} (hd : DrainInv b0 d s) {i : Nat}
    (hi1 : d.rs ≤ i) (hi2 : i < d.re) (hi3 : i < d.is ∨ d.ie ≤ i) :
    ∃ e, (abs b0)[i]? = some e ∧ d.read i s = (.ok e, s) := by
  have hI := hd.inv0
  have hi : i < (abs b0).length := by rw [abs_length b0 hI]; exact Nat.lt_of_lt_of_le hi2 hd.re_le
  have hcell := abs_getElem b0 hI i hi
  rw [← hd.items_eq] at hcell
  have hbs := hd.bs
  have hre := hd.re_le
  have hsz := hI.size_le
  have hst := hI.start_lt' (by omega)
  have hW := hI.cap_lt
  have hp : phys b0.start b0.cap i < s.buf.cap := by
    rw [hd.cap_eq]; exact phys_lt _ _ _ (by omega)
  exact ⟨_, List.getElem?_eq_getElem hi,
    by mrun [Drain.read, hd.cap_eq, hd.start_eq, readInit_run _ _ _ hp hcell]⟩

theorem Drain.next_spec (b0 : CB) (d : Drain) (s : Sys) (hd : DrainInv b0 d s) :
    d.next s = (.ok (((abs b0).drop d.is).take (d.ie - d.is) |>.head?, { d with is := d.is + (if d.is < d.ie then 1 else 0) }), s) ∧
    DrainInv b0 { d with is := d.is + (if d.is < d.ie then 1 else 0) } s := by
  by_cases hlt : d.is < d.ie
  · simp only [hlt, if_true]
    have hd' : DrainInv b0 { d with is := d.is + 1 } s :=
      { hd with h1 := Nat.le_succ_of_le hd.h1, h2 := hlt }
    obtain ⟨e, he, hr⟩ := Drain.read_spec hd' hd.h1 (Nat.lt_of_lt_of_le hlt hd.h3)
      (Or.inl (Nat.lt_succ_self _))
    refine ⟨?_, hd'⟩
    rw [List.head?_take, if_neg (by omega), List.head?_drop, he]
    simp only [Drain.next, hlt, if_true, bind_run, hr, pure_run]
  · simp only [hlt, if_false, Nat.add_zero]
    refine ⟨?_, hd⟩
    rw [Nat.sub_eq_zero_of_le (Nat.le_of_not_lt hlt)]
    simp only [Drain.next, hlt, if_false, pure_run, List.take_zero, List.head?_nil]

theorem Drain.nextBack_spec (b0 : CB) (d : Drain) (s : Sys) (hd : DrainInv b0 d s) :
    d.nextBack s = (.ok (((abs b0).drop d.is).take (d.ie - d.is) |>.getLast?, { d with ie := d.ie - (if d.is < d.ie then 1 else 0) }), s) ∧
    DrainInv b0 { d with ie := d.ie - (if d.is < d.ie then 1 else 0) } s := by
  by_cases hlt : d.is < d.ie
  · simp only [hlt, if_true]
    have hd' : DrainInv b0 { d with ie := d.ie - 1 } s :=
      { hd with h2 := Nat.le_sub_one_of_lt hlt, h3 := Nat.le_trans (Nat.sub_le ..) hd.h3 }
    obtain ⟨e, he, hr⟩ := Drain.read_spec hd' (i := d.ie - 1) (by have := hd.h1; simp only; omega)
      (by have := hd.h3; simp only; omega) (Or.inr (Nat.le_refl _))
    refine ⟨?_, hd'⟩
    rw [List.getLast?_take, if_neg (by omega), List.getElem?_drop,
      show d.is + (d.ie - d.is - 1) = d.ie - 1 by omega, he, Option.some_or]
    simp only [Drain.nextBack, hlt, if_true, bind_run, hr, pure_run]
  · simp only [hlt, if_false, Nat.sub_zero]
    refine ⟨?_, hd⟩
    rw [Nat.sub_eq_zero_of_le (Nat.le_of_not_lt hlt)]
    simp only [Drain.nextBack, hlt, if_false, pure_run, List.take_zero, List.getLast?_nil]

theorem Drain.asSlices_spec (b0 : CB) (d : Drain) (s : Sys) (hd : DrainInv b0 d s) :
    ∃ r l, d.asSlices s = (.ok (r, l), s) ∧
      r.slots ++ l.slots = windowSlots (phys b0.start b0.cap d.is) b0.cap (d.ie - d.is) := by
  have hbs : d.bufSize ≤ b0.cap := hd.bs ▸ hd.inv0.size_le
  have hie : d.ie ≤ b0.cap := Nat.le_trans hd.h3 (Nat.le_trans hd.h4 hbs)
  by_cases hz : b0.cap = 0 ∨ d.bufSize = 0 ∨ ¬ (d.is < d.ie)
  · refine ⟨View.empty, View.empty, by mrun [Drain.asSlices], ?_⟩
    have := hd.h3; have := hd.h4
    rw [show d.ie - d.is = 0 by omega]; rfl
  have hW := hd.inv0.cap_lt
  have hcpos : 0 < b0.cap := by omega
  have hst := hd.inv0.start_lt' hcpos
  have hpi := phys_lt b0.start b0.cap d.is hcpos
  have hpe := phys_lt b0.start b0.cap d.ie hcpos
  have hsplit := split_slots (phys b0.start b0.cap d.is) b0.cap (d.ie - d.is) hpi (by omega) (by omega)
  rw [phys_phys, Nat.add_sub_cancel' hd.h2] at hsplit
  rw [← hsplit]
  -- up to the comparison of the two ends, with the side conditions handed over (an `omega` call for each
  -- costs three times as much); then either branch
  simp only [Drain.asSlices, ↓bind_run, ↓getBuf_run, hd.cap_eq, hd.start_eq, ↓if_neg hz,
    dassert_decide _ _ hst, dassert_decide _ _ hbs, ↓pure_run,
    amod_run _ _ _ _ hcpos hW (Nat.le_of_lt hst) hie,
    amod_run _ _ _ _ hcpos hW (Nat.le_of_lt hst) (Nat.le_trans hd.h2 hie)]
  split
  · exact ⟨_, _, by mrun []; rfl, List.append_nil _⟩
  · exact ⟨_, _, by mrun []; rfl, rfl⟩

/-- the first phase of `Drop for Drain`, for any fault plan: the two guards destroy exactly the elements the
iterator has not yielded -/
theorem Drain.drop_guards (b0 : CB) (d : Drain) (s : Sys) (hd : DrainInv b0 d s) :
    ∃ r l, d.asSlices s = (.ok (r, l), s) ∧
      tryFinally (dropInPlace r.slots) (dropInPlace l.slots) s =
        dropAll (((abs b0).drop d.is).take (d.ie - d.is)) s := by
  have hle : d.is + (d.ie - d.is) ≤ b0.size := by
    have := hd.h2; have := hd.h3; have := hd.re_le; omega
  obtain ⟨r, l, hsl, hslots⟩ := Drain.asSlices_spec b0 d s hd
  have hmem : ∀ i ∈ r.slots ++ l.slots, i < s.buf.cap ∧ (s.buf.items i).isSome = true := by
    rw [hslots, hd.cap_eq, hd.items_eq]
    exact windowSlots_live b0 hd.inv0 d.is (d.ie - d.is) hle
  refine ⟨r, l, hsl, ?_⟩
  rw [dropTwo_eq r.slots l.slots s (fun i hi => hmem i (List.mem_append_left _ hi))
    (fun i hi => hmem i (List.mem_append_right _ hi)), hslots, hd.items_eq,
    filterMap_window b0 hd.inv0 d.is (d.ie - d.is) hle]

/-- `Drop for Drain`: the elements not yet yielded are destroyed (once each, in order), the tail is
moved into the hole and the length is restored: the buffer holds what was before the range followed
by what was after it. -/
theorem Drain.drop_spec (b0 : CB) (d : Drain) (s : Sys) (hd : DrainInv b0 d s)
    (hf : s.faults.drop = 0) :
    ∃ b', d.drop s = (.ok (), { s with
        buf := b'
        log := dropEvents s.kind (((abs b0).drop d.is).take (d.ie - d.is)) ++ s.log }) ∧
      Inv b' ∧ abs b' = (abs b0).take d.rs ++ (abs b0).drop d.re ∧ b'.cap = b0.cap ∧
      b'.start = b0.start ∧
      (∀ i, i < d.rs → b'.items (phys b0.start b0.cap i) = b0.items (phys b0.start b0.cap i)) := by
  have hI := hd.inv0
  have hsz := hI.size_le
  have hW := hI.cap_lt
  have hrs : d.rs ≤ d.re := Nat.le_trans hd.h1 (Nat.le_trans hd.h2 hd.h3)
  have hre := hd.re_le
  -- phase 1: destroy what the iterator has not yielded
  obtain ⟨r, l, hsl, hdrop⟩ := Drain.drop_guards b0 d s hd
  rw [dropAll_nofault _ s hf] at hdrop
  -- from here on the buffer of the state is written out: the drained buffer with its length set to zero
  obtain ⟨buf, log, nxt, fl, kd⟩ := s
  obtain rfl : buf = _ := hd.buf_eq
  by_cases hc0 : b0.cap = 0
  · -- zero capacity: nothing was drained, nothing to move
    refine ⟨⟨b0.cap, 0, b0.start, b0.items⟩, ?_,
      ⟨Nat.zero_le _, hI.start_lt, hW, fun i hi => absurd hi (Nat.not_lt_zero _)⟩, ?_,
      rfl, rfl, fun _ _ => rfl⟩
    · simp only [Drain.drop, bind_run, hsl, hdrop, getBuf_run, if_pos hc0, pure_run]
    · rw [abs_eq_nil b0 hI (.inl hc0), List.take_nil, List.drop_nil]; rfl
  · have hcpos : 0 < b0.cap := by omega
    have hst := hI.start_lt' hcpos
    -- phase 2: close the hole
    obtain ⟨f', hloop, hsh⟩ := backfillLoop_shifts (b0.size - d.re + 1)
      ⟨⟨b0.cap, 0, b0.start, b0.items⟩, dropEvents kd (((abs b0).drop d.is).take (d.ie - d.is)) ++ log,
        nxt, fl, kd⟩ d.rs d.re (b0.size - d.re) 0 hcpos hW hst hrs
      (by simp only; omega) (Nat.zero_le _) (Nat.lt_succ_self _)
    simp only [Nat.add_zero, Nat.sub_zero] at hloop hsh
    refine ⟨⟨b0.cap, b0.size - (d.re - d.rs), b0.start, f'⟩, ?_, ?_⟩
    · simp only [Drain.drop, bind_run, hsl, hdrop, getBuf_run, hc0, if_false, hd.bs]
      mrun [CSP.add_run, phys_zero_left _ _ hst, hloop, setSize_run]
    · rw [show d.rs + (b0.size - d.re) = b0.size - (d.re - d.rs) by omega] at hsh
      obtain ⟨hInv, hAbs⟩ := hsh.cut_spec hI hcpos (by omega)
      rw [Nat.add_sub_cancel' hrs] at hAbs
      exact ⟨hInv, hAbs, rfl, rfl, fun i hi => (hsh.1 i (by omega)).trans (by rw [if_neg (by omega)])⟩

end CircBuf

import CircBuf.Lemmas.Backfill
/-!
The back-fill loop of `Drop for Drain` as an instance of the generic fuelled loop `whileFuel`, and the
congruence of the two generic loops (`whileFuel_congr`, `whileM_congr`) in their step function under an
invariant: two step functions that agree on the states satisfying an invariant the second one preserves give
the same loop.  This is what ties a translated loop (`Gen.Drain_drop_step`, one iteration of the Rust body; the
body of `fill_spare_with`) to the model's for every amount of fuel.
-/
namespace CircBuf

theorem backfillLoop_eq_while (fuel : Nat) : ∀ (hole backfill : CSP) (rem : Nat),
    backfillLoop fuel hole backfill rem =
      whileFuel (fun x : CSP × CSP × Nat => decide (x.2.2 > 0)) backfillStep fuel (backfill, hole, rem) := by
  induction fuel with
  | zero => intro hole backfill rem; simp only [backfillLoop, whileFuel, decide_eq_true_eq]
  | succ n ih => intro hole backfill rem; simp only [backfillLoop_succ, whileFuel, decide_eq_true_eq, ih]

theorem whileFuel_congr {σ : Type} (c : σ → Bool) (f g : σ → M σ) (I : σ → Prop)
    (hstep : ∀ x s, I x → c x = true → f x s = g x s)
    (hpres : ∀ x s x' s', I x → c x = true → g x s = (.ok x', s') → I x') :
    ∀ (fuel : Nat) (x : σ) (s : Sys), I x → whileFuel c f fuel x s = whileFuel c g fuel x s := by
  intro fuel
  induction fuel with
  | zero => intro x s _; simp only [whileFuel]
  | succ n ih =>
    intro x s hI
    simp only [whileFuel]
    by_cases hc : c x = true
    · simp only [hc, if_true, ↓bind_run, hstep x s hI hc]
      cases hg : g x s with
      | mk r s' => cases r with
        | error p => rfl
        | ok x' => exact ih x' s' (hpres x s x' s' hI hc hg)
    · simp only [hc]; rfl

theorem whileM_congr (msg : String) (c : M Bool) (f g : M Unit) (I : Sys → Prop)
    (hc : ∀ s, (c s).2 = s)
    (hstep : ∀ s, I s → f s = g s)
    (hpres : ∀ s s', I s → g s = (.ok (), s') → I s') :
    ∀ (fuel : Nat) (s : Sys), I s → whileM msg c f fuel s = whileM msg c g fuel s := by
  intro fuel
  induction fuel with
  | zero => intro s _; rfl
  | succ n ih =>
    intro s hI
    simp only [whileM]
    refine bind_congr_ok fun b s0 hb => ?_
    obtain rfl : s0 = s := by have := hc s; rwa [hb] at this
    cases b with
    | false => rfl
    | true =>
      rw [if_pos rfl, if_pos rfl]
      refine Eq.trans (by rw [bind_run, bind_run, hstep s0 hI]) (bind_congr_ok fun u s2 hg => ?_)
      exact ih s2 (hpres s0 s2 hI hg)

end CircBuf

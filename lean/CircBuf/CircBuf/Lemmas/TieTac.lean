import CircBuf.Lemmas.TieAttr
import CircBuf.Generated.Core
import CircBuf.Lemmas.Loops
set_option linter.unusedSimpArgs false
/-!
  The machinery of the tie theorems (`Lemmas/CoreTie.lean` says what they are): the command `maybe`, the case
  splitting tactics (`ifsplit1`, `esplit1`, `itemsUnify`, `minUnify`), `add_mod` / `sub_mod` without `%`, the rule sets
  the evaluation shares, and the tie tactics themselves (`tieEval`; `tie`, `tieInv`, `tieNd`, `tieFrag`; `sameBody`, `truncEval`, `callEval`).
-/
open Lean Elab Command in
/-- `maybe <declaration>`: elaborates the declaration; when that fails (an error, a time-out), nothing
is added to the environment and the failure is demoted to a warning, so that the rest of the module —
and the modules importing it — still check.  A theorem declared this way either exists, fully
checked by the kernel, or does not exist (the axiom audit of `/verif/check.py` then reports it
missing): a tie that no longer holds for one function costs the theorems that rest on that function,
not the ones that happen to live in the same file. -/
elab "maybe " cmd:command : command => do
  let saved ← get
  let before := saved.messages
  modify fun st => { st with messages := {} }
  let failed ← try
      withScope (fun sc => { sc with opts := Elab.async.set sc.opts false }) (elabCommand cmd)
      pure (← get).messages.hasErrors
    catch _ => pure true
  if failed then
    let msgs := (← get).messages
    set saved
    let txt ← msgs.toList.filterMapM fun m => do
      if m.severity == .error then return some (← m.data.toString) else return none
    logWarning m!"maybe: declaration skipped — {(txt.headD "").take 300}"
  else
    modify fun st => { st with messages := before ++ st.messages }

namespace CircBuf

section tactics
open Lean Elab Tactic Meta

/-- case split on the condition of an `if … then … else` of the goal — the first whose condition contains
no `if` itself — and rewrite with it.  (`split` runs a full `simp` pass over the goal for every branch and gives up on the
larger bodies; this does one `by_cases`.) -/
elab "ifsplit1" : tactic => withMainContext do
  let g ← getMainGoal
  let t ← instantiateMVars (← g.getType)
  -- an `if` whose condition does not itself contain an `if` (innermost conditions first: the outer ones
  -- then become arithmetic facts `omega` understands)
  let hasIte (e : Expr) : Bool := (e.find? (fun x => x.isAppOfArity ``ite 5)).isSome
  let some c := t.find? (fun e => e.isAppOfArity ``ite 5 && !(e.getArg! 1).hasLooseBVars && !hasIte (e.getArg! 1))
    | throwError "ifsplit1: no if-then-else in the goal"
  let cond := c.getArg! 1
  let (s1, s2) ← g.byCases cond `hif
  let h := mkIdent `hif
  -- the condition is rewritten as a proposition (`c = True` / `c = False`), never used as an equation from
  -- left to right: `start = start + 0` would rewrite for ever
  let simpsetPos ← `(tactic| try simp only [eq_true $h, if_true, if_false, ite_true, ite_false, not_true_eq_false,
        not_false_eq_true, true_and, and_true, false_and, and_false, true_or, or_true, false_or, or_false,
        decide_true, decide_false, Bool.false_eq_true])
  let simpsetNeg ← `(tactic| try simp only [eq_false $h, if_true, if_false, ite_true, ite_false, not_true_eq_false,
        not_false_eq_true, true_and, and_true, false_and, and_false, true_or, or_true, false_or, or_false,
        decide_true, decide_false, Bool.false_eq_true])
  let tacPos ← `(tactic| first
    | (exfalso; omega)          -- a branch the arithmetic facts already exclude
    | ((try simp only [if_pos $h]); $simpsetPos))
  let tacNeg ← `(tactic| first
    | (exfalso; omega)
    | ((try simp only [if_neg $h]); $simpsetNeg))
  let gs1 ← evalTacticAt tacPos s1.mvarId
  let gs2 ← evalTacticAt tacNeg s2.mvarId
  -- progress check: the condition must be gone from the `if`s of the new goals (else `repeat'` would loop)
  for g' in gs1 ++ gs2 do
    let t' ← instantiateMVars (← g'.getType)
    if (t'.find? (fun e => e.isAppOfArity ``ite 5 && e.getArg! 1 == cond)).isSome then
      throwError "ifsplit1: the condition could not be eliminated"
  replaceMainGoal (gs1 ++ gs2)

/-- case split on the first scrutinee of the goal that is a checked arithmetic step (`add_mod`,
`sub_mod`, `+`, `-`, …: ok / panic) or the content of a slot (`some` / `none`) -/
elab "esplit1" : tactic => withMainContext do
  let g ← getMainGoal
  let t ← instantiateMVars (← g.getType)
  let isTarget (e : Expr) : Bool :=
    !e.hasLooseBVars &&
      (e.isAppOfArity ``CircBuf.addMod 3 || e.isAppOfArity ``CircBuf.subMod 3 ||
       e.isAppOfArity ``CircBuf.CB.items 2)
  let some e := t.find? isTarget | throwError "esplit1: nothing to split on"
  let (xs, g1) ← g.generalize #[{ expr := e }]
  let subgoals ← g1.cases xs[0]!
  let tac ← `(tactic| try simp only [])
  let mut out := []
  for sg in subgoals do
    out := out ++ (← evalTacticAt tac sg.mvarId)
  for g' in out do
    let t' ← instantiateMVars (← g'.getType)
    if (t'.find? (fun x => x == e)).isSome then
      throwError "esplit1: the scrutinee could not be eliminated"
  replaceMainGoal out

/-- two reads `b.items t₁`, `b.items t₂` of the goal whose indices `omega` proves equal are made the same
term (two bodies may compute one slot in two ways — `start + (size - 1)` and `start + (cap - 1)` on a
full buffer); otherwise the case analysis would treat them as unrelated slots -/
elab "itemsUnify" : tactic => withMainContext do
  let g ← getMainGoal
  let t ← instantiateMVars (← g.getType)
  -- gather every read `b.items t` of the goal
  let found ← IO.mkRef (#[] : Array Expr)
  t.forEach fun e => do
    if e.isAppOfArity ``CircBuf.CB.items 2 && !e.hasLooseBVars then
      found.modify fun acc => if acc.contains e then acc else acc.push e
  let reads ← found.get
  for i in [0:reads.size] do
    for j in [i+1:reads.size] do
      let a := reads[i]!
      let b := reads[j]!
      if a.getArg! 0 != b.getArg! 0 then continue
      let ia := a.getArg! 1
      let ib := b.getArg! 1
      if ia == ib then continue
      let eqT ← mkEq ib ia
      let m ← mkFreshExprMVar eqT
      let ok ← try
          let gs ← evalTacticAt (← `(tactic| omega)) m.mvarId!
          pure gs.isEmpty
        catch _ => pure false
      if ok then
        let r ← g.rewrite (← g.getType) m
        let g' ← g.replaceTargetEq r.eNew r.eqProof
        replaceMainGoal (g' :: r.mvarIds)
        return
  throwError "itemsUnify: nothing to unify"

/-- two `min` expressions of the goal that `omega` proves equal are made the same term (`a.min(b).min(c)`
against `c.min(b).min(a)`); otherwise what is computed from them — a pointer advanced by that amount — would be
treated as unrelated on the two sides -/
elab "minUnify" : tactic => withMainContext do
  let g ← getMainGoal
  let t ← instantiateMVars (← g.getType)
  let found ← IO.mkRef (#[] : Array Expr)
  t.forEach fun e => do
    if e.isAppOfArity ``Min.min 4 && !e.hasLooseBVars then
      found.modify fun acc => if acc.contains e then acc else acc.push e
  let terms ← found.get
  let natT := mkConst ``Nat
  for i in [0:terms.size] do
    for j in [i+1:terms.size] do
      let a := terms[i]!
      let b := terms[j]!
      if a == b then continue
      if !(← isDefEq (← inferType a) natT) then continue
      -- the larger term is rewritten into the other one only if it does not contain it
      if (b.find? (· == a)).isSome || (a.find? (· == b)).isSome then continue
      let eqT ← mkEq b a
      let m ← mkFreshExprMVar eqT
      let ok ← try
          let gs ← evalTacticAt (← `(tactic| omega)) m.mvarId!
          pure gs.isEmpty
        catch _ => pure false
      if ok then
        let r ← g.rewrite (← g.getType) m
        let g' ← g.replaceTargetEq r.eNew r.eqProof
        replaceMainGoal (g' :: r.mvarIds)
        return
  throwError "minUnify: nothing to unify"

end tactics

theorem uadd_ok' (x y : Nat) (h : x + y < W) : uadd x y = .ok (x + y) := uadd_ok x y h

/-- `% m` on `[0, 2m]` without `%` (so that `omega` can finish) -/
theorem mod_small (z m : Nat) (hz : z ≤ 2 * m) :
    z % m = if z < m then z else if z < 2 * m then z - m else 0 := by
  split
  · exact Nat.mod_eq_of_lt (by assumption)
  · split
    · rw [Nat.mod_eq_sub_mod (by omega)]; exact Nat.mod_eq_of_lt (by omega)
    · have : z = 2 * m := by omega
      subst this; simp
theorem addMod_ite (x y m : Nat) (hm : 0 < m) (hmW : m < W) (hx : x ≤ m) (hy : y ≤ m) :
    addMod x y m = .ok (if x + y < m then x + y else if x + y < 2 * m then x + y - m else 0) := by
  rw [addMod_spec x y m hm hmW hx hy, mod_small (x + y) m (by omega)]
theorem addMod_lt (x y m : Nat) (hmW : m < W) (hx : x ≤ m) (hy : y ≤ m) (h : x + y < m) :
    addMod x y m = .ok (x + y) := by
  rw [addMod_spec x y m (by omega) hmW hx hy, Nat.mod_eq_of_lt h]
theorem addMod_ge (x y m : Nat) (hm : 0 < m) (hmW : m < W) (hx : x ≤ m) (hy : y ≤ m) (h : m ≤ x + y)
    (h2 : x + y < m + m) : addMod x y m = .ok (x + y - m) := by
  rw [addMod_spec x y m hm hmW hx hy, Nat.mod_eq_sub_mod h, Nat.mod_eq_of_lt (by omega)]
theorem subMod_ite (x y m : Nat) (hm : 0 < m) (hmW : m < W) (hx : x ≤ m) (hy : y ≤ m) :
    subMod x y m = .ok (if x + (m - y) < m then x + (m - y) else if x + (m - y) < 2 * m then x + (m - y) - m else 0) := by
  rw [subMod_spec x y m hm hmW hx hy, mod_small (x + (m - y)) m (by omega)]

/-! ### the evaluation steps the tie tactics share

Three sets of rewrite rules, used top-down (`↓`: a bind is run before its continuation is looked at):
* `tie_run` unfolds the storage primitives and runs the binds of the primitive steps; the results of
  fallible arithmetic stay inside `liftE`, which is only pushed through `if` and `>>=`;
* `tie_res` then splits on those results (`liftE e >>= f` becomes a `match` on `e`) — it is also what is
  re-run after a case split;
* `tie_arith` evaluates the index arithmetic from the facts in the context (`add_mod`/`sub_mod` by their
  specification, `+`/`-` without overflow, conditions `omega` decides);
and `tie_defs`: the definitions translated from the 39 functions of `lib.rs`'s index layer and core, each with the
model's counterpart (a body re-expressed through other functions of that fragment is followed into them). -/

attribute [tie_run ↓] liftE_ite liftE_ok_eq liftE_pure_eq liftE_error_eq liftE_bind_dist liftE_dassertE
  bind_assoc_run dassert_bind getBuf_bind setBuf_bind pure_bind_run raise_bind ite_bind ite_run dassert_run
  getBuf_run setBuf_run pure_run raise_run checkIdx_bind checkIdx_run' readInit_bind readInit_run'
  writeCell_bind writeCell_run'
attribute [tie_run] amod smod setStart setSize setItems checkRange View.sub View.splitAt View.all View.empty
  checkedSub uadd usub umul umod View.slots Nat.zero_add Nat.add_zero Nat.sub_zero range'_zero_len
  dropInPlace_nil Nat.zero_le true_and

attribute [tie_res ↓] liftE_bind liftE_run bind_assoc_run dassert_bind getBuf_bind setBuf_bind pure_bind_run
  raise_bind ite_bind ite_run dassert_run getBuf_run setBuf_run pure_run raise_run checkIdx_bind checkIdx_run'
  readInit_bind readInit_run' writeCell_bind writeCell_run'
attribute [tie_res] decide_eq_true_eq Nat.not_lt Nat.not_le range'_zero_len dropInPlace_nil

attribute [tie_arith ↓] addMod_ite subMod_ite uadd_ok usub_ok if_pos if_neg
attribute [tie_arith] decide_eq_true_eq Nat.mod_lt gt_iff_lt ge_iff_le Nat.add_sub_cancel

attribute [tie_defs] Gen.len Gen.is_empty Gen.is_full Gen.inc_start Gen.dec_start Gen.inc_size Gen.dec_size
  Gen.front_maybe_uninit_mut Gen.front_maybe_uninit Gen.back_maybe_uninit Gen.back_maybe_uninit_mut
  Gen.get_maybe_uninit Gen.get_maybe_uninit_mut Gen.slices_uninit_mut Gen.as_slices Gen.as_mut_slices Gen.front
  Gen.back Gen.get Gen.front_mut Gen.back_mut Gen.get_mut Gen.nth_front Gen.nth_back Gen.push_back Gen.push_front
  Gen.try_push_back Gen.try_push_front Gen.pop_back Gen.pop_front Gen.swap Gen.swap_remove_back
  Gen.swap_remove_front Gen.drop_range Gen.truncate_back Gen.truncate_front Gen.clear Gen.remove
  Gen.make_contiguous incStart decStart incSize decSize frontSlot backSlot getSlot slicesUninitMut asSlices
  asSlicesOf dassertE front? back? get? nthFront? nthBack? pushBack pushFront tryPushBack tryPushFront popBack
  popFront swap swapRemoveBack swapRemoveFront dropRange dropSegments truncateBack truncateFront clear remove
  makeContiguous

/-- both bodies evaluated down to the primitive steps (`ls`: what to unfold) -/
syntax "tieEval" "[" Lean.Parser.Tactic.simpLemma,* "]" : tactic
macro_rules
  | `(tactic| tieEval [$ls,*]) => `(tactic| (
     try simp only [readInit_twice, $ls,*]
     all_goals simp only [tie_run, $ls,*]
     all_goals try simp only [tie_res]))

/-- evaluate both sides on an arbitrary state down to the primitive steps, then compare case by case.  (Inside the
loop a leaf is tested with `with_reducible rfl`: a leaf that is not closed yet fails that test at once, while plain
`rfl` would first unfold both sides as far as it can, at every round.) -/
syntax "tie" "[" Lean.Parser.Tactic.simpLemma,* "]" : tactic
macro_rules
  | `(tactic| tie [$ls,*]) => `(tactic| (
     tieEval [$ls,*]
     all_goals (repeat' (first | (with_reducible rfl) | (dsimp only; done) | minUnify | ifsplit1 | esplit1 | (simp only [tie_res]) | split))
     all_goals (try rfl)
     all_goals (try subst_vars)
     all_goals (try simp_all)
     all_goals (try omega)))

/-- the same comparison on the states that satisfy the representation invariant `h : Inv s.buf`: the
index arithmetic is evaluated (`tie_arith`), so two bodies that compute the same slots in different ways
are recognised as equal -/
syntax "tieInv" ident "[" Lean.Parser.Tactic.simpLemma,* "]" : tactic
macro_rules
  | `(tactic| tieInv $h [$ls,*]) => `(tactic| (
     have hsz_ := Inv.size_le $h
     have hst_ := Inv.start_lt $h
     have hcw_ := Inv.cap_lt $h
     tieEval [$ls,*]
     -- one pass: before the case analysis few conditions can be decided, and a failed `omega` is not remembered,
     -- so every further pass would pay again for each condition left open
     try simp (config := { singlePass := true }) (disch := omega) only [tie_arith]
     all_goals (repeat' (first | (with_reducible rfl) | (dsimp only; done) | ifsplit1 | esplit1 | (simp only [tie_res]) | split))
     all_goals (try rfl)
     all_goals (try subst_vars)
     -- what is left is mostly a pair of results equal up to arithmetic on their components
     all_goals (try ((repeat' (first | rfl | omega | apply And.intro | congr 1)); done))
     all_goals (try simp (disch := omega) only [tie_arith] at *)
     all_goals (try simp_all)
     all_goals (try omega)
     all_goals (try (repeat' (first | rfl | omega | apply And.intro | congr 1)))))

/-- ties are stated for the runs of the model that do not end in a defect panic (`hnd`): every property
theorem establishes such a run, and the branches in which only a *defect* could be reported — which
the two bodies may reach in a different order, with the state changed to a different extent — need not
be compared.  `tieNd h hnd [defs]` = `tieInv` with the whole fragment unfolded (`tie_defs`, besides `defs`) and `hnd`
carried through the case analysis; it fails unless it closes the goal. -/
syntax "tieNd" ident ident "[" Lean.Parser.Tactic.simpLemma,* "]" : tactic
macro_rules
  | `(tactic| tieNd $h $hnd [$ls,*]) => `(tactic| (
     have hsz_ := Inv.size_le $h
     have hst_ := Inv.start_lt $h
     have hcw_ := Inv.cap_lt $h
     revert $hnd
     tieEval [tie_defs, $ls,*]
     -- the two bodies evaluated to the same term: nothing is left of the equation
     all_goals first
     | (intro _; trivial)
     | (
       try simp (config := { singlePass := true }) (disch := omega) only [tie_arith]
       all_goals (repeat' (first | (intro _; rfl) | (intro _; trivial) | (show NonDefect (Except.error _, _).fst → _; intro hnd_; simp [NonDefect, Panic.defect] at hnd_; done) | (show NonDefect (Except.ok _, _).fst → _; intro _) | ifsplit1 | itemsUnify | esplit1 | (simp only [tie_res]) | split))
       all_goals (try subst_vars)
       all_goals (try simp (disch := omega) only [tie_arith] at *)
       all_goals (try (simp only [NonDefect, Panic.defect]; done))
       all_goals (try simp_all [NonDefect, Panic.defect])
       all_goals (try omega)
       all_goals (try (intro _))
       all_goals (try (repeat' (first | rfl | omega | apply And.intro | congr 1))))
     done))

/-- on the states satisfying the invariant first, then as functions on all states; the whole fragment is
unfolded, so a body that was re-expressed through other functions of the fragment is followed into them -/
syntax "tieFrag" ident "[" Lean.Parser.Tactic.simpLemma,* "]" : tactic
macro_rules
  | `(tactic| tieFrag $h [$ls,*]) =>
    `(tactic| first | (tieInv $h [tie_defs, $ls,*]; done) | (tie [tie_defs, $ls,*]; done))

/-- for a function whose translated body is, term for term, that of a twin (`as_mut_slices` / `as_slices`,
`IterMut::*` / `Iter::*`): the twin's tie `t` is its tie.  Fails at once when the two bodies differ. -/
syntax "sameBody" "[" ident "," ident "]" term : tactic
macro_rules
  | `(tactic| sameBody [$a, $b] $t) => `(tactic| (refine Eq.trans ?_ $t; unfold $a $b; with_reducible rfl))

/-- evaluation of a body that *calls* other functions of the fragment whose ties are given as rewrite rules
(`ls`): the conditions are split (innermost first; impossible combinations pruned by `omega`) and the callees are
replaced by the model's.  Closes the goals on which the two sides then agree term for term (for `truncate_*`, where
both go on from the result of `drop_range` in the same way, all of them); what remains is left to the caller. -/
syntax "truncEval" "[" Lean.Parser.Tactic.simpLemma,* "]" : tactic
macro_rules
  | `(tactic| truncEval [$ls,*]) => `(tactic| (
      simp only [$ls,*, ↓getBuf_bind, ↓getBuf_run, ↓ite_run, ↓ite_bind, ↓bind_assoc_run, ↓pure_run, ↓pure_bind_run, ↓liftE_bind,
        ↓liftE_run, ↓dassert_bind, ↓bind_run, uadd, usub, decide_eq_true_eq, Nat.sub_zero, Nat.zero_add, Nat.add_zero]
      repeat' (first
        | (with_reducible rfl)
        | ifsplit1
        | (simp only [$ls,*, ↓getBuf_bind, ↓getBuf_run, ↓ite_run, ↓ite_bind, ↓bind_assoc_run, ↓pure_run, ↓pure_bind_run,
             ↓liftE_bind, ↓liftE_run, ↓dassert_bind, ↓dassert_run, ↓bind_run])
        | split)))

/-- … and what remains is compared — up to arithmetic on the arguments of the calls -/
syntax "callEval" "[" Lean.Parser.Tactic.simpLemma,* "]" : tactic
macro_rules
  | `(tactic| callEval [$ls,*]) => `(tactic| (
      truncEval [$ls,*]
      all_goals (first | rfl | (exfalso; omega) |
        (congr 1 <;> first | rfl | omega | (congr 1 <;> first | rfl | omega)))))

end CircBuf

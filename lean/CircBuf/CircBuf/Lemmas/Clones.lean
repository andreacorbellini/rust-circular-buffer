import CircBuf.Lemmas.Loops
/-! What `T::clone` returns and records (`cloneList`, `cloneLog`, `cloneCount`; `cloneElem` with an armed or
unarmed fault counter), and `write_uninit_slice_cloned` with its `Guard`: the complete run and the run up to
a panicking `clone`, both from one lemma about the loop (`writeClonedLoop_append`); and the push loop fed by
`clone` calls (`pushAll_clones`, `pushAll_clones_stops`). -/
namespace CircBuf

/-- the clones `T::clone` makes of `src`, given the id counter (`tracked`/`plain`: fresh ids,
same values; other kinds: the value itself) -/
def cloneList (k : Kind) (next : Nat) : List Elem → List Elem
  | [] => []
  | e :: rest =>
    if k = .tracked ∨ k = .plain then ⟨next, e.val⟩ :: cloneList k (next + 1) rest
    else e :: cloneList k next rest

/-- the ledger entries (newest first) of those `clone` calls -/
def cloneLog (k : Kind) (next : Nat) : List Elem → List Event
  | [] => []
  | e :: rest =>
    if k = .tracked ∨ k = .plain then cloneLog k (next + 1) rest ++ [Event.cloned next e.id]
    else cloneLog k next rest

/-- how far `n` calls of `clone` advance the id counter -/
def cloneCount (k : Kind) (n : Nat) : Nat := if k = .tracked ∨ k = .plain then n else 0

theorem cloneList_length (k : Kind) (next : Nat) (l : List Elem) :
    (cloneList k next l).length = l.length := by
  induction l generalizing next with
  | nil => rfl
  | cons e rest ih => simp only [cloneList]; split <;> simp [ih]

theorem cloneCount_add (k : Kind) (a b : Nat) :
    cloneCount k (a + b) = cloneCount k a + cloneCount k b := by
  unfold cloneCount; split <;> simp

theorem cloneList_byte (n : Nat) (l : List Elem) : cloneList .byte n l = l := by
  induction l generalizing n with
  | nil => rfl
  | cons e rest ih => simp [cloneList, ih]

theorem cloneCount_byte (n : Nat) : cloneCount .byte n = 0 := by simp [cloneCount]

theorem cloneList_append (k : Kind) (n : Nat) (a b : List Elem) :
    cloneList k n (a ++ b) = cloneList k n a ++ cloneList k (n + cloneCount k a.length) b := by
  induction a generalizing n with
  | nil => simp [cloneList, cloneCount]
  | cons e rest ih =>
    by_cases hk : k = .tracked ∨ k = .plain
    · simp only [List.cons_append, cloneList, hk, if_true, ih, cloneCount, List.length_cons]
      congr 3; omega
    · simp only [List.cons_append, cloneList, hk, if_false, ih, cloneCount, List.length_cons]

theorem cloneLog_append (k : Kind) (n : Nat) (a b : List Elem) :
    cloneLog k n (a ++ b) = cloneLog k (n + cloneCount k a.length) b ++ cloneLog k n a := by
  induction a generalizing n with
  | nil => simp [cloneLog, cloneCount]
  | cons e rest ih =>
    by_cases hk : k = .tracked ∨ k = .plain
    · simp only [List.cons_append, cloneLog, hk, if_true, ih, cloneCount, List.length_cons,
        List.append_assoc]
      congr 2; omega
    · simp only [List.cons_append, cloneLog, hk, if_false, ih, cloneCount, List.length_cons]

theorem cloneList_cons (k : Kind) (n : Nat) (e : Elem) (rest : List Elem) :
    cloneList k n (e :: rest)
      = (cloneList k n [e])[0]'(by simp [cloneList_length]) :: cloneList k (n + cloneCount k 1) rest := by
  by_cases hk : k = .tracked ∨ k = .plain <;> simp [cloneList, cloneCount, hk]

theorem cloneLog_cons (k : Kind) (n : Nat) (e : Elem) (rest : List Elem) :
    cloneLog k n (e :: rest) = cloneLog k (n + cloneCount k 1) rest ++ cloneLog k n [e] :=
  cloneLog_append k n [e] rest

theorem cloneElem_ok (s : Sys) (e : Elem) (hf : s.faults.clone ≠ 1) :
    cloneElem e s = (.ok ((cloneList s.kind s.next [e])[0]'(by simp [cloneList_length])),
      { s with next := s.next + cloneCount s.kind 1, log := cloneLog s.kind s.next [e] ++ s.log,
               faults := { s.faults with clone := s.faults.clone - 1 } }) := by
  unfold cloneElem
  rw [tick_eq, decide_eq_false hf]
  by_cases hk : s.kind = .tracked ∨ s.kind = .plain <;> simp [hk, cloneList, cloneLog, cloneCount]

theorem cloneElem_panics (s : Sys) (e : Elem) (hf : s.faults.clone = 1) :
    cloneElem e s = (.error (.user "clone"), { s with faults := { s.faults with clone := 0 } }) := by
  simp [cloneElem, hf, tick]

theorem cloneElem_run' (s : Sys) (e : Elem) (hf : s.faults.clone = 0) :
    cloneElem e s = (.ok ((cloneList s.kind s.next [e])[0]'(by simp [cloneList_length])),
      { s with next := s.next + cloneCount s.kind 1, log := cloneLog s.kind s.next [e] ++ s.log }) := by
  rw [cloneElem_ok s e (hf ▸ Nat.zero_ne_one), show s.faults.clone - 1 = s.faults.clone by rw [hf]]

theorem cloneElem_run (s : Sys) (e : Elem) (hf : s.faults.clone = 0) (hk : s.kind = .tracked) :
    cloneElem e s =
      (.ok ⟨s.next, e.val⟩, { s with next := s.next + 1, log := .cloned s.next e.id :: s.log }) := by
  obtain ⟨b, l, n, f, k⟩ := s
  obtain ⟨d, c, ca, nx, eq⟩ := f
  simp only at hf hk; subst hf hk
  simp [cloneElem, tick]

theorem cloneElem_run_byte (s : Sys) (e : Elem) (hf : s.faults.clone = 0) (hk : s.kind = .byte) :
    cloneElem e s = (.ok e, s) := by
  obtain ⟨b, l, n, f, k⟩ := s
  obtain ⟨d, c, ca, nx, eq⟩ := f
  simp only at hf hk; subst hf hk
  simp [cloneElem, tick]

/-- write a list into consecutive cells starting at `off` -/
def writeList (f : Nat → Cell) (off : Nat) (l : List Elem) (q : Nat) : Cell :=
  if off ≤ q ∧ q < off + l.length then (l[q - off]?) else f q

theorem writeList_at (f : Nat → Cell) (off : Nat) (l : List Elem) (j : Nat) (hj : j < l.length) :
    writeList f off l (off + j) = some l[j] := by
  unfold writeList
  rw [if_pos (by omega), Nat.add_sub_cancel_left]
  exact List.getElem?_eq_getElem hj

theorem writeList_off (f : Nat → Cell) (off : Nat) (l : List Elem) (q : Nat)
    (hq : q < off ∨ off + l.length ≤ q) : writeList f off l q = f q :=
  if_neg (by omega)

theorem writeList_nil (f : Nat → Cell) (off : Nat) : writeList f off [] = f :=
  funext fun q => writeList_off f off [] q (by simp; omega)

theorem writeList_one (f : Nat → Cell) (off : Nat) (l : List Elem) (h : l.length = 1) :
    writeList f off l = setCell f off (some (l[0]'(by omega))) := by
  funext q
  by_cases hq : q = off
  · subst hq; rw [setCell_same]; exact writeList_at f q l 0 (by omega)
  · rw [setCell_ne _ _ _ _ hq, writeList_off]; omega

theorem writeList_append (f : Nat → Cell) (off : Nat) (a b : List Elem) :
    writeList f off (a ++ b) = writeList (writeList f off a) (off + a.length) b := by
  funext q
  simp only [writeList, List.length_append, ← Nat.add_assoc]
  by_cases h1 : off + a.length ≤ q
  · -- behind `a`
    have h0 : off ≤ q := Nat.le_trans (Nat.le_add_right _ _) h1
    have h2 : ¬ q < off + a.length := Nat.not_lt.2 h1
    simp only [h0, h1, h2, true_and, and_false, if_false,
      List.getElem?_append_right (Nat.le_sub_of_add_le' h1), Nat.sub_add_eq]
  · -- before the end of `a`
    have h2 : q < off + a.length := Nat.lt_of_not_le h1
    have h3 : q < off + a.length + b.length := Nat.lt_add_right _ h2
    simp only [h1, h2, h3, if_false, and_true]
    split
    · next h0 => rw [List.getElem?_append_left (Nat.sub_lt_left_of_lt_add h0 h2)]
    · rfl

theorem filterMap_writeList (f : Nat → Cell) (off : Nat) (l : List Elem) {n : Nat} (hn : l.length = n) :
    (List.range' off n).filterMap (writeList f off l) = l := by
  rw [List.range'_eq_map_range, List.filterMap_map]
  exact filterMap_range_eq _ _ _ hn fun i hi => writeList_at f off l i hi

/-- `s` after clones of `src` were written to the cells from `off` on; the fault counter has gone
down by one per call of `clone` (an unarmed counter stays 0) -/
def Sys.cloned (s : Sys) (off : Nat) (src : List Elem) : Sys := { s with
  buf := { s.buf with items := writeList s.buf.items off (cloneList s.kind s.next src) }
  next := s.next + cloneCount s.kind src.length
  log := cloneLog s.kind s.next src ++ s.log
  faults := { s.faults with clone := s.faults.clone - src.length } }

theorem Sys.cloned_nil (s : Sys) (off : Nat) : s.cloned off [] = s := by
  simp only [Sys.cloned, cloneList, cloneLog, cloneCount, ite_self, writeList_nil, List.nil_append,
    List.length_nil, Nat.sub_zero, Nat.add_zero]

theorem Sys.cloned_append (s : Sys) (off : Nat) (a b : List Elem) :
    (s.cloned off a).cloned (off + a.length) b = s.cloned off (a ++ b) := by
  simp only [Sys.cloned, cloneList_append, cloneLog_append, cloneCount_add, writeList_append,
    cloneList_length, List.length_append, List.append_assoc, Nat.add_assoc, Nat.sub_sub]

theorem writeClonedLoop_cons (dst : View) (e : Elem) (l : List Elem) (i : Nat) (s : Sys)
    (hc : s.faults.clone ≠ 1) (hi : i < dst.len) (hb : dst.off + dst.len ≤ s.buf.cap) :
    writeClonedLoop dst i (e :: l) s
      = writeClonedLoop dst (i + 1) l (s.cloned (dst.off + i) [e]) := by
  simp only [writeClonedLoop, ↓bind_run, onPanic, cloneElem_ok s e hc, hi, ↓if_pos]
  rw [writeCell_run _ _ _ (by simp only; omega)]
  simp only [Sys.cloned, writeList_one _ _ _ (cloneList_length _ _ [e]), List.length_singleton]

/-- the clones of `a` do not reach the armed call: the loop runs through them and goes on with
`b`.  (`b = []`: the complete run; `b = e :: _` with the counter at `a.length + 1`: the run up to
the panicking `clone`.) -/
theorem writeClonedLoop_append (dst : View) (a b : List Elem) (i : Nat) (s : Sys)
    (hc : s.faults.clone = 0 ∨ a.length < s.faults.clone)
    (hfit : i + a.length ≤ dst.len) (hb : dst.off + dst.len ≤ s.buf.cap) :
    writeClonedLoop dst i (a ++ b) s
      = writeClonedLoop dst (i + a.length) b (s.cloned (dst.off + i) a) := by
  induction a generalizing i s with
  | nil => rw [Sys.cloned_nil]; rfl
  | cons e rest ih =>
    simp only [List.length_cons] at hfit hc
    have hcons : (s.cloned (dst.off + i) [e]).cloned (dst.off + i + 1) rest
        = s.cloned (dst.off + i) (e :: rest) := Sys.cloned_append s (dst.off + i) [e] rest
    rw [List.cons_append, writeClonedLoop_cons dst e _ i s (by omega) (by omega) hb,
      ih (i + 1) (s.cloned (dst.off + i) [e]) (by simp only [Sys.cloned, List.length_singleton]; omega)
        (by omega) hb,
      ← Nat.add_assoc dst.off, hcons, List.length_cons, Nat.add_assoc, Nat.add_comm 1]

theorem writeCloned_passes (dst : View) (src : List Elem) (s : Sys)
    (hc : s.faults.clone = 0 ∨ src.length < s.faults.clone)
    (hlen : dst.len = src.length) (hb : dst.off + dst.len ≤ s.buf.cap) :
    writeCloned dst src s = (.ok (), s.cloned dst.off src) := by
  have := writeClonedLoop_append dst src [] 0 s hc (by omega) hb
  rw [List.append_nil, Nat.add_zero] at this
  mrun [writeCloned, this, writeClonedLoop]

/-- the `k+1`-th call of `clone` panics: the guard destroys the `k` clones made so far -/
theorem writeCloned_fault (dst : View) (src : List Elem) (s : Sys) (k : Nat)
    (hk : s.faults.clone = k + 1) (hkn : k < src.length) (hd : s.faults.drop = 0)
    (hlen : dst.len = src.length) (hb : dst.off + dst.len ≤ s.buf.cap) :
    writeCloned dst src s = (.error (.user "clone"), { s.cloned dst.off (src.take k) with
      log := dropEvents s.kind (cloneList s.kind s.next (src.take k)) ++
        (cloneLog s.kind s.next (src.take k) ++ s.log)
      faults := { s.faults with clone := 0 } }) := by
  have htk : (src.take k).length = k := List.length_take_of_le (Nat.le_of_lt hkn)
  have hL : (cloneList s.kind s.next (src.take k)).length = k := by rw [cloneList_length, htk]
  have hloop := writeClonedLoop_append dst (src.take k) (src.drop k) 0 s (.inr (by omega)) (by omega) hb
  rw [List.take_append_drop, List.drop_eq_getElem_cons hkn] at hloop
  have hcl := cloneElem_panics (s.cloned dst.off (src.take k)) src[k]
    (by simp only [Sys.cloned, htk, hk, Nat.add_sub_cancel_left])
  -- the guard's cells hold exactly the clones made so far
  have hdrop := dropInPlace_run (List.range' dst.off k)
    { s.cloned dst.off (src.take k) with faults := { s.faults with clone := 0 } } hd (by
      intro j hj
      simp only [List.mem_range'_1] at hj
      obtain ⟨j, rfl⟩ := Nat.exists_eq_add_of_le hj.1
      simp only [Sys.cloned]
      rw [writeList_at _ _ _ j (by omega)]
      exact ⟨by omega, rfl⟩)
  simp only [Sys.cloned, htk, Nat.add_zero, Nat.zero_add, filterMap_writeList _ _ _ hL]
    at hloop hcl hdrop
  mrun [writeCloned, hloop, writeClonedLoop, onPanic, hcl, hdrop, Sys.cloned, htk]

theorem PB.cloneElem (e : Elem) : PB (cloneElem e) := by
  intro s
  by_cases h : s.faults.clone = 1
  · rw [cloneElem_panics s e h]
  · rw [cloneElem_ok s e h]

section
variable {s : Sys} {xs : List Elem} {c : Nat} {l : List Event} {n : Nat} {f : Faults} {K : Kind}

theorem cloneElem_at (e : Elem) (a : At s xs c l n f K) (hc : f.clone ≠ 1) :
    ∃ s' y, cloneElem e s = (.ok y, s') ∧ cloneList K n [e] = [y] ∧
      At s' xs c (cloneLog K n [e] ++ l) (n + cloneCount K 1) { f with clone := f.clone - 1 } K := by
  obtain ⟨hI, rfl, rfl, rfl, rfl, rfl, rfl⟩ := a
  refine ⟨_, _, cloneElem_ok s e hc, ?_, hI, rfl, rfl, rfl, rfl, rfl, rfl⟩
  by_cases hk : s.kind = .tracked ∨ s.kind = .plain <;> simp [cloneList, hk]

/-- the rounds fed by `clone` calls whose fault counter is not armed or beyond them; as long as
nothing is displaced the ledger gains exactly the `cloned` entries -/
theorem pushAll_clones (src : List Elem) (a : At s xs c l n f K) (hd : f.drop = 0)
    (hc : f.clone = 0 ∨ src.length < f.clone) :
    ∃ s' evs, pushAll (src.map cloneElem) s = (.ok (), s') ∧
      At s' (Spec.pushMany c xs (cloneList K n src)).1 c (evs ++ l) (n + cloneCount K src.length)
        { f with clone := f.clone - src.length } K ∧
      (xs.length + src.length ≤ c → evs = cloneLog K n src) := by
  induction src generalizing s xs l n f with
  | nil => exact ⟨s, [], rfl, by simpa [cloneList, Spec.pushMany, cloneCount] using a, fun _ => rfl⟩
  | cons e rest ih =>
    simp only [List.length_cons] at hc
    obtain ⟨s0, y, r0, hy, a0⟩ := cloneElem_at e a (by omega)
    obtain ⟨s1, r1, a1⟩ := pushDrop_at a0 hd y
    obtain ⟨s2, evs, r2, a2, hl⟩ := ih a1 hd (by simp only; omega)
    have hcl : cloneList K n (e :: rest) = y :: cloneList K (n + cloneCount K 1) rest := by
      rw [← List.singleton_append, cloneList_append, hy]; rfl
    refine ⟨s2, evs ++ (dropEvents K (Spec.pushBack c xs y).2.toList ++ cloneLog K n [e]),
      (pushAll_cons_ok r0 r1).trans r2, ?_, fun hfit => ?_⟩
    · simpa [hcl, Spec.pushMany, Nat.add_comm rest.length 1, cloneCount_add, Nat.sub_sub,
        Nat.add_assoc, List.append_assoc] using a2
    · simp only [List.length_cons] at hfit
      rw [pushBack_fits c xs y (by omega)] at hl ⊢
      rw [hl (by simp; omega), ← List.singleton_append (l := rest), cloneLog_append]
      simp [dropEvents_nil]

end

theorem extendCloned_eq (src : List Elem) : extendCloned src = pushAll (src.map cloneElem) := by
  induction src with
  | nil => rfl
  | cons e rest ih => simp only [extendCloned, List.map_cons, pushAll, ih]

/-- the `k+1`-th `clone` panics while clones of `src` are pushed: `k` rounds as in `pushAll_clones`, then
the loop stops with the fault counter spent -/
theorem pushAll_clones_stops {s : Sys} {xs : List Elem} {c : Nat} {l : List Event} {n : Nat} {f : Faults}
    {K : Kind} (src : List Elem) (k : Nat) (hk : k < src.length) (a : At s xs c l n f K)
    (hd : f.drop = 0) (hc : f.clone = k + 1) :
    ∃ s' evs, pushAll (src.map cloneElem) s = (.error (.user "clone"), s') ∧
      At s' (Spec.pushMany c xs (cloneList K n (src.take k))).1 c (evs ++ l) (n + cloneCount K k)
        { f with clone := 0 } K ∧
      (xs.length + k ≤ c → evs = cloneLog K n (src.take k)) := by
  have hlen : (src.take k).length = k := List.length_take_of_le (Nat.le_of_lt hk)
  obtain ⟨s1, evs, r1, a1, hl⟩ := pushAll_clones (src.take k) a hd (Or.inr (by omega))
  rw [hlen] at a1 hl
  have hstop := pushAll_stops (qs := (src.drop (k + 1)).map cloneElem) r1
    (cloneElem_panics s1 src[k] (by rw [a1.faults_eq]; simp only; omega))
  rw [← List.map_cons, ← List.map_append, List.getElem_cons_drop, List.take_append_drop] at hstop
  exact ⟨_, evs, hstop,
    ⟨a1.inv, a1.abs_eq, a1.cap_eq, a1.log_eq, a1.next_eq, by rw [a1.faults_eq], a1.kind_eq⟩, hl⟩

end CircBuf

import CircBuf.Generated.AddMod
/-!
  Specification of the *translated* `add_mod` / `sub_mod` (T1), for every modulus `0 < m < 2^64`,
  including `m = usize::MAX` and the branch where `x + y` wraps around the machine word.
-/
namespace CircBuf

theorem addMod_spec (x y m : Nat) (hm : 0 < m) (hmW : m < W) (hx : x ≤ m) (hy : y ≤ m) :
    addMod x y m = .ok ((x + y) % m) := by
  have hm0 : m ≠ 0 := by omega
  by_cases hov : x + y < W
  · -- no wrap-around
    have h1 : (x + y) % W = x + y := Nat.mod_eq_of_lt hov
    have h2 : ¬ (W ≤ x + y) := by omega
    have h3 : (W - 1) % m + 1 < W := by
      have := Nat.mod_lt (W - 1) hm; omega
    simp only [addMod, dassertE, overflowingAdd, umod, uadd, umul, AsUsize.asUsize, h1, h2, h3, hm0,
      hm, hx, hy, hov, decide_true, decide_false, if_true, if_false, bind, Except.bind,
      Nat.zero_mul, Nat.add_zero, W_pos, Bool.false_eq_true]
  · -- `x + y ≥ 2^64`: the sum wraps; then `m ≥ 2^63`
    have hge : W ≤ x + y := by omega
    have h1 : (x + y) % W = x + y - W := by
      rw [Nat.mod_eq_sub_mod hge]; exact Nat.mod_eq_of_lt (by omega)
    have h2 : (W - 1) % m = W - 1 - m := by
      rw [Nat.mod_eq_sub_mod (by omega)]; exact Nat.mod_eq_of_lt (by omega)
    have h3 : W - 1 - m + 1 < W := by omega
    have h4 : 1 * (W - 1 - m + 1) < W := by omega
    have h5 : x + y - W + 1 * (W - 1 - m + 1) < W := by omega
    have h6 : (x + y - W + 1 * (W - 1 - m + 1)) % m = (x + y) % m := by
      have e : x + y - W + 1 * (W - 1 - m + 1) = x + y - m := by omega
      rw [e]; exact (Nat.mod_eq_sub_mod (by omega)).symm
    simp only [addMod, dassertE, overflowingAdd, umod, uadd, umul, AsUsize.asUsize, h1, h2, h3, h4,
      h5, h6, hm0, hm, hx, hy, hge, decide_true, if_true, if_false, bind, Except.bind]

theorem subMod_spec (x y m : Nat) (hm : 0 < m) (hmW : m < W) (hx : x ≤ m) (hy : y ≤ m) :
    subMod x y m = .ok ((x + (m - y)) % m) := by
  have h := addMod_spec x (m - y) m hm hmW hx (by omega)
  simp only [subMod, dassertE, usub, hm, hx, hy, decide_true, if_true, bind, Except.bind, h]

/-- Non-vacuity: the wrapping branch is inhabited at `m = usize::MAX`. -/
example : addMod (W - 2) (W - 3) (W - 1) = .ok (((W - 2) + (W - 3)) % (W - 1)) :=
  addMod_spec _ _ _ (by have := W_pos; unfold W at *; omega) (by have := W_pos; omega)
    (by omega) (by omega)

end CircBuf

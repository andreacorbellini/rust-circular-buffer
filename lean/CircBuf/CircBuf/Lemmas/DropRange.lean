import CircBuf.Lemmas.Views
/-! Destroying elements: `drop_in_place`, `drop_range`.  Every destroying step of the model is shown to
be one `dropAll` — for any value of the destructor fault counter and any element kind; what it means
when no destructor panics (`dropAll_nofault`, the `_run` lemmas) and when the element kind has a destructor
(`dropAll_destructor`) is read off from that. -/
namespace CircBuf

/-- the ledger entries (newest first) of destroying `es` in order -/
def dropEvents (k : Kind) (es : List Elem) : List Event :=
  if k = .byte ∨ k = .plain then [] else (es.map fun e => Event.dropped e.id).reverse

theorem dropEvents_nil (k : Kind) : dropEvents k [] = [] := by simp [dropEvents]

theorem dropEvents_append (k : Kind) (xs ys : List Elem) :
    dropEvents k (xs ++ ys) = dropEvents k ys ++ dropEvents k xs := by
  unfold dropEvents; split <;> simp

/-- the outcome of destroying `n` elements when the `k`-th destructor call (counted from now;
`k = 0`: none) panics -/
def dropOutcome (k n : Nat) : Except Panic Unit :=
  if 1 ≤ k ∧ k ≤ n then .error (.user "drop") else .ok ()

theorem dropOutcome_fires {k n : Nat} (h : 1 ≤ k ∧ k ≤ n) : dropOutcome k n = .error (.user "drop") :=
  if_pos h
theorem dropOutcome_quiet {k n : Nat} (h : k = 0 ∨ n < k) : dropOutcome k n = .ok () :=
  if_neg (by omega)
theorem dropOutcome_zero (n : Nat) : dropOutcome 0 n = .ok () := dropOutcome_quiet (.inl rfl)
theorem dropOutcome_any_zero (k : Nat) : dropOutcome k 0 = .ok () :=
  dropOutcome_quiet (Nat.eq_zero_or_pos k)
theorem dropOutcome_one_one : dropOutcome 1 1 = .error (.user "drop") :=
  dropOutcome_fires ⟨Nat.le_refl 1, Nat.le_refl 1⟩
theorem dropOutcome_big_one (k : Nat) : dropOutcome (k + 1 + 1) 1 = .ok () :=
  dropOutcome_quiet (.inr (by omega))

/-- Destroying the elements `es`, each exactly once, as a single step — what every destroying
operation of the model amounts to, whatever the fault counter and the element kind: a kind without
destructor runs no user code at all; otherwise each element is one destructor call and one ledger
entry, a panicking call does not stop the remaining ones, and only the result tells that it
happened. -/
def dropAll (es : List Elem) : M Unit := fun s =>
  if s.kind = .byte ∨ s.kind = .plain then (.ok (), s) else
    (dropOutcome s.faults.drop es.length,
      { s with log := dropEvents s.kind es ++ s.log,
               faults := { s.faults with drop := s.faults.drop - es.length } })

theorem dropAll_nil : dropAll [] = pure () := by
  funext s
  unfold dropAll
  split
  · rfl
  · rw [List.length_nil, dropOutcome_any_zero, dropEvents_nil]; rfl

theorem PB.dropAll (es : List Elem) : PB (dropAll es) := by
  intro s; unfold CircBuf.dropAll; split <;> rfl

/-- a check of the buffer after a destroying step: the step leaves the buffer alone, and whether the
check is reached or not the result is that of the step -/
theorem dropAll_then {op : M Unit} {f : Unit → M Unit} {es : List Elem} {s s' : Sys}
    (h : op s = dropAll es s') (hf : ∀ s1, s1.buf = s'.buf → f () s1 = (.ok (), s1)) :
    (op >>= f) s = dropAll es s' := by
  rw [bind_run, h]
  have hb := PB.dropAll es s'
  cases hd : dropAll es s' with
  | mk r s1 =>
    rw [hd] at hb
    cases r with
    | ok u => exact hf s1 hb
    | error p => rfl

theorem dropAll_nofault (es : List Elem) (s : Sys) (hf : s.faults.drop = 0) :
    dropAll es s = (.ok (), { s with log := dropEvents s.kind es ++ s.log }) := by
  unfold dropAll dropEvents
  split
  · rfl
  · rw [hf, dropOutcome_zero, Nat.zero_sub, ← hf]

theorem dropAll_destructor (es : List Elem) (s : Sys) (hk : ¬ (s.kind = .byte ∨ s.kind = .plain)) :
    dropAll es s = (dropOutcome s.faults.drop es.length,
      { s with log := dropEvents s.kind es ++ s.log,
               faults := { s.faults with drop := s.faults.drop - es.length } }) := if_neg hk

/-- two guards in a row: a panic in the first does not keep the second from running, a second panic
cannot happen (the counter fires once) -/
theorem dropAll_append (a b : List Elem) : tryFinally (dropAll a) (dropAll b) = dropAll (a ++ b) := by
  funext s
  unfold tryFinally dropAll
  by_cases hk : s.kind = .byte ∨ s.kind = .plain
  · simp only [hk, if_true]
  · simp only [hk, if_false, dropOutcome, dropEvents_append, List.length_append, List.append_assoc]
    by_cases h1 : 1 ≤ s.faults.drop ∧ s.faults.drop ≤ a.length
    · have h2 : ¬ (1 ≤ s.faults.drop - a.length ∧ s.faults.drop - a.length ≤ b.length) := by omega
      have h3 : 1 ≤ s.faults.drop ∧ s.faults.drop ≤ a.length + b.length := by omega
      simp only [hk, if_false, if_pos h1, if_neg h2, if_pos h3, Nat.sub_sub]
    · by_cases h2 : 1 ≤ s.faults.drop - a.length ∧ s.faults.drop - a.length ≤ b.length
      · have h3 : 1 ≤ s.faults.drop ∧ s.faults.drop ≤ a.length + b.length := by omega
        simp only [hk, if_false, if_neg h1, if_pos h2, if_pos h3, Nat.sub_sub]
      · have h3 : ¬ (1 ≤ s.faults.drop ∧ s.faults.drop ≤ a.length + b.length) := by omega
        simp only [hk, if_false, if_neg h1, if_neg h2, if_neg h3, Nat.sub_sub]

theorem dropElem_eq (e : Elem) : dropElem e = dropAll [e] := by
  funext s
  unfold dropElem dropAll dropOutcome dropEvents tick
  by_cases hk : s.kind = .byte ∨ s.kind = .plain
  · simp only [hk, if_true]
  · rcases hd : s.faults.drop with _ | _ | d <;> simp [hk]

theorem dropElems_eq (es : List Elem) : dropElems es = dropAll es := by
  induction es with
  | nil => exact dropAll_nil.symm
  | cons e rest ih => rw [dropElems, dropElem_eq, ih, dropAll_append]; rfl

theorem PB.dropElem (e : Elem) : PB (dropElem e) := dropElem_eq e ▸ PB.dropAll [e]

/-- whatever the slots hold: a slot without an element is a defect that stops the run, not a write -/
theorem PB.dropInPlace (sl : List Nat) : PB (dropInPlace sl) := by
  induction sl with
  | nil => exact PB.pure ()
  | cons i rest ih => exact PB.bind (PB.readInit i) fun e => PB.tryFinally (PB.dropElem e) ih

theorem dropElem_run (s : Sys) (e : Elem) (hf : s.faults.drop = 0) :
    dropElem e s = (.ok (), { s with log := dropEvents s.kind [e] ++ s.log }) := by
  rw [dropElem_eq, dropAll_nofault _ _ hf]

/-- a destroying step guarded by another one that finds the same buffer: together they destroy both
lists -/
theorem tryFinally_dropAll {a fin : M Unit} {es fs : List Elem} {s : Sys} (ha : a s = dropAll es s)
    (hfin : ∀ s1, s1.buf = s.buf → fin s1 = dropAll fs s1) :
    tryFinally a fin s = dropAll (es ++ fs) s := by
  rw [← dropAll_append]
  unfold tryFinally
  rw [ha]
  have hb := PB.dropAll es s
  cases hd : dropAll es s with
  | mk r s1 => rw [hd] at hb; cases r <;> simp only [hfin s1 hb]

/-- `drop_in_place` over slots that all hold live elements: every element is destroyed, in order,
nothing else changes -/
theorem dropInPlace_eq (sl : List Nat) (s : Sys)
    (hsl : ∀ i ∈ sl, i < s.buf.cap ∧ (s.buf.items i).isSome = true) :
    dropInPlace sl s = dropAll (sl.filterMap s.buf.items) s := by
  induction sl generalizing s with
  | nil => rw [List.filterMap_nil, dropAll_nil]; rfl
  | cons i rest ih =>
    obtain ⟨hi, hsome⟩ := hsl i (by simp)
    obtain ⟨e, he⟩ := Option.isSome_iff_exists.mp hsome
    simp only [dropInPlace, bind_run, readInit_run s i e hi he, List.filterMap_cons, he]
    exact tryFinally_dropAll (congrFun (dropElem_eq e) s) fun s1 hb => by
      rw [ih s1 (hb ▸ fun j hj => hsl j (by simp [hj])), hb]

theorem dropInPlace_run (sl : List Nat) (s : Sys) (hf : s.faults.drop = 0)
    (hsl : ∀ i ∈ sl, i < s.buf.cap ∧ (s.buf.items i).isSome = true) :
    dropInPlace sl s =
      (.ok (), { s with log := dropEvents s.kind (sl.filterMap s.buf.items) ++ s.log }) := by
  rw [dropInPlace_eq sl s hsl, dropAll_nofault _ _ hf]

/-- two guards in a row (`_right` then `_left`): together they behave like one slice -/
theorem dropTwo_eq (a b : List Nat) (s : Sys)
    (ha : ∀ i ∈ a, i < s.buf.cap ∧ (s.buf.items i).isSome = true)
    (hb : ∀ i ∈ b, i < s.buf.cap ∧ (s.buf.items i).isSome = true) :
    tryFinally (dropInPlace a) (dropInPlace b) s = dropAll ((a ++ b).filterMap s.buf.items) s := by
  rw [List.filterMap_append]
  exact tryFinally_dropAll (dropInPlace_eq a s ha) fun s1 h1 => by
    rw [dropInPlace_eq b s1 (h1 ▸ hb), h1]

theorem dropSegments_eq (S : Sys) (st n : Nat) (hst : st < S.buf.cap) (hn : 0 < n)
    (hnc : n ≤ S.buf.cap)
    (hmem : ∀ i ∈ windowSlots st S.buf.cap n, i < S.buf.cap ∧ (S.buf.items i).isSome = true) :
    dropSegments st (phys st S.buf.cap n) S.buf.cap S =
      dropAll ((windowSlots st S.buf.cap n).filterMap S.buf.items) S := by
  have hp := phys_lt st S.buf.cap n (by omega)
  rw [← split_slots st S.buf.cap n hst hn hnc] at hmem ⊢
  unfold dropSegments
  by_cases hc : st < phys st S.buf.cap n
  · simp only [hc, if_true] at hmem ⊢
    mrun []
    exact (dropTwo_eq _ [] S hmem (by simp)).trans (by rw [List.append_nil])
  · simp only [hc, if_false] at hmem ⊢
    mrun []
    exact dropTwo_eq _ _ S (fun i hi => hmem i (List.mem_append_left _ hi))
      (fun i hi => hmem i (List.mem_append_right _ hi))

/-- the buffer after `drop_range(rs..re)` shrank it -/
def shrink (b : CB) (rs re : Nat) : CB :=
  if re = b.size then ⟨b.cap, rs, b.start, b.items⟩
  else ⟨b.cap, b.size - re, phys b.start b.cap re, b.items⟩

theorem shrink_cap (b : CB) (rs re : Nat) : (shrink b rs re).cap = b.cap := by
  unfold shrink; split <;> rfl

theorem shrink_items (b : CB) (rs re : Nat) : (shrink b rs re).items = b.items := by
  unfold shrink; split <;> rfl

/-- cutting a range that touches an end of the window out of it leaves a valid buffer holding the rest -/
theorem shrink_spec (b : CB) (h : Inv b) (rs re : Nat) (h1 : rs ≤ re) (h2 : re ≤ b.size)
    (h3 : rs = 0 ∨ re = b.size) :
    Inv (shrink b rs re) ∧ abs (shrink b rs re) = (abs b).take rs ++ (abs b).drop re := by
  have hlen := abs_length b h
  unfold shrink
  split
  · next hre =>
    have := inv_abs_window b h 0 rs (by omega)
    rw [List.drop_zero] at this
    rw [hre, ← hlen, List.drop_length, List.append_nil]
    rcases h.start_lt with hs | ⟨hc, hs⟩
    · rwa [phys_zero _ _ hs] at this
    · rwa [hs, hc] at this ⊢
  · next hre =>
    obtain rfl : rs = 0 := h3.resolve_right hre
    have := inv_abs_window b h re (b.size - re) (by omega)
    rwa [List.take_of_length_le (by rw [List.length_drop, hlen]; omega)] at this

/-- `drop_range`: the buffer is shrunk first, then every element of the range is destroyed exactly once -/
theorem dropRange_eq (s : Sys) (rs re : Nat) (h : Inv s.buf)
    (h1 : rs < re) (h2 : re ≤ s.buf.size) (h3 : rs = 0 ∨ re = s.buf.size) :
    dropRange rs re s =
      dropAll (((abs s.buf).drop rs).take (re - rs)) { s with buf := shrink s.buf rs re } := by
  have hsz := h.size_le
  have hrs : rs < s.buf.size := Nat.lt_of_lt_of_le h1 h2
  have hcpos : 0 < s.buf.cap := by omega
  have hst := h.start_lt' hcpos
  have hle : rs + (re - rs) ≤ s.buf.size := by omega
  have hpp : phys s.buf.start s.buf.cap re
      = phys (phys s.buf.start s.buf.cap rs) s.buf.cap (re - rs) := by
    rw [phys_phys, Nat.add_sub_cancel' (Nat.le_of_lt h1)]
  have hd := dropSegments_eq { s with buf := shrink s.buf rs re } (phys s.buf.start s.buf.cap rs)
    (re - rs) (by rw [shrink_cap]; exact phys_lt _ _ _ hcpos) (Nat.sub_pos_of_lt h1)
    (by rw [shrink_cap]; omega)
    (by rw [shrink_cap, shrink_items]; exact windowSlots_live s.buf h rs (re - rs) hle)
  simp only [shrink_cap, shrink_items, ← hpp, filterMap_window s.buf h rs (re - rs) hle] at hd
  rw [← hd]
  unfold shrink
  simp only [dropRange, Nat.not_le.2 h1, ↓if_false, ↓bind_run, ↓getBuf_run, ↓pure_run, hst, hsz, hrs, h2, h1,
    h3, decide_true, dassert_true, amod_run _ _ _ _ hcpos h.cap_lt (Nat.le_of_lt hst) (Nat.le_trans h2 hsz),
    amod_run _ _ _ _ hcpos h.cap_lt (Nat.le_of_lt hst) (Nat.le_of_lt (Nat.lt_of_lt_of_le hrs hsz))]
  split
  · simp only [↓bind_run, setSize_run]
  · simp only [↓bind_run, setSize_run, setStart_run, usub_ok _ _ h2, ↓liftE_ok]

theorem dropRange_run (s : Sys) (rs re : Nat) (h : Inv s.buf) (hf : s.faults.drop = 0)
    (h1 : rs < re) (h2 : re ≤ s.buf.size) (h3 : rs = 0 ∨ re = s.buf.size) :
    dropRange rs re s = (.ok (),
      { s with
        buf := shrink s.buf rs re
        log := dropEvents s.kind (((abs s.buf).drop rs).take (re - rs)) ++ s.log }) := by
  rw [dropRange_eq s rs re h h1 h2 h3, dropAll_nofault _ { s with buf := shrink s.buf rs re } hf]

end CircBuf

import CircBuf.Lemmas.Ops
/-! Views: `as_slices`, element access, and the physical slots of the window. -/
namespace CircBuf

/-- the slots of the window, front to back -/
def windowSlots (start cap size : Nat) : List Nat := (List.range size).map (phys start cap)

theorem windowSlots_length (start cap size : Nat) : (windowSlots start cap size).length = size := by
  simp [windowSlots]

@[simp] theorem View.length_slots (v : View) : v.slots.length = v.len := by simp [View.slots]

theorem mem_windowSlots {start cap size i : Nat} :
    i ∈ windowSlots start cap size ↔ ∃ j, j < size ∧ phys start cap j = i := by
  simp only [windowSlots, List.mem_map, List.mem_range]

/-- the slots of a run of positions that does not wrap (`h` is what `phys_run` gives) -/
theorem map_phys_range' {s c a len dst : Nat} (h : ∀ k, k < len → phys s c (a + k) = dst + k) :
    (List.range' a len).map (phys s c) = List.range' dst len := by
  apply List.ext_getElem
  · simp
  · intro i h1 _
    simp only [List.length_map, List.length_range'] at h1
    simp only [List.getElem_map, List.getElem_range', Nat.one_mul]
    exact h i h1

theorem windowSlots_of_le {start cap size : Nat} (h : start + size ≤ cap) :
    windowSlots start cap size = List.range' start size := by
  rw [windowSlots, List.range_eq_range']
  exact map_phys_range' (dst := start) (phys_run ⟨h, Or.inl rfl⟩)

/-- the slots a two-piece split `[from..to)` / `[from..cap) ++ [0..to)` covers -/
theorem split_slots (st cap n : Nat) (hst : st < cap) (hn : 0 < n) (hnc : n ≤ cap) :
    (if st < phys st cap n then List.range' st (phys st cap n - st)
     else List.range' st (cap - st) ++ List.range' 0 (phys st cap n)) = windowSlots st cap n := by
  rcases phys_cases st cap n hst hnc with ⟨a1, a2⟩ | ⟨a1, a2⟩ <;> rw [a2]
  · rw [if_pos (by omega), windowSlots_of_le (by omega), Nat.add_sub_cancel_left]
  · have e : List.range' 0 n =
        List.range' 0 (cap - st) ++ List.range' (0 + (cap - st)) (st + n - cap) := by
      rw [List.range'_append_1]; congr 1; omega
    rw [if_neg (by omega), windowSlots, List.range_eq_range', e, List.map_append,
      map_phys_range' (dst := st) (phys_run ⟨by omega, Or.inl rfl⟩),
      map_phys_range' (dst := 0) (phys_run ⟨by omega, Or.inr (by omega)⟩)]

/-- `as_slices`: the two views are exactly the window, front to back (and the second is empty whenever the first
is) -/
theorem asSlicesOf_spec (b : CB) (h : Inv b) :
    ∃ f k, asSlicesOf b = .ok (f, k) ∧ f.slots ++ k.slots = windowSlots b.start b.cap b.size ∧
      (k.len ≠ 0 → f.len ≠ 0) := by
  have hsz := h.size_le
  by_cases hz : b.cap = 0 ∨ b.size = 0
  · refine ⟨View.empty, View.empty, if_pos hz, ?_, fun h0 => absurd rfl h0⟩
    rw [show b.size = 0 by omega]; rfl
  have hst := h.start_lt' (by omega)
  have ha := addMod_spec b.start b.size b.cap (by omega) h.cap_lt (by omega) hsz
  have hp := phys_lt b.start b.cap b.size (by omega)
  rw [← split_slots b.start b.cap b.size hst (by omega) hsz]
  unfold phys at hp ⊢
  simp only [asSlicesOf, if_neg hz, dassertE, hst, hsz, ha, decide_true, if_true, bind, Except.bind]
  split
  · exact ⟨_, _, if_pos (Nat.le_of_lt hp), List.append_nil _, fun h0 => absurd rfl h0⟩
  · next hlt =>
    exact ⟨_, _, if_pos ⟨Nat.le_of_lt hst, Nat.le_of_not_lt hlt⟩, rfl, fun _ => Nat.sub_ne_zero_of_lt hst⟩

theorem filterMap_windowSlots (b : CB) :
    (windowSlots b.start b.cap b.size).filterMap b.items = abs b := by
  rw [windowSlots, List.filterMap_map]; rfl

theorem windowSlots_init (b : CB) (h : Inv b) :
    ∀ i ∈ windowSlots b.start b.cap b.size, i < b.cap ∧ (b.items i).isSome = true := by
  intro i hi
  obtain ⟨j, hj, rfl⟩ := mem_windowSlots.1 hi
  exact ⟨phys_lt _ _ _ (by have := h.size_le; omega), h.live j hj⟩

theorem windowSlots_live (b : CB) (h : Inv b) (a n : Nat) (hle : a + n ≤ b.size) :
    ∀ i ∈ windowSlots (phys b.start b.cap a) b.cap n, i < b.cap ∧ (b.items i).isSome = true :=
  windowSlots_init _ (inv_abs_window b h a n hle).1

theorem filterMap_window (b : CB) (h : Inv b) (a n : Nat) (hle : a + n ≤ b.size) :
    (windowSlots (phys b.start b.cap a) b.cap n).filterMap b.items = ((abs b).drop a).take n :=
  (filterMap_windowSlots ⟨b.cap, n, _, b.items⟩).trans (inv_abs_window b h a n hle).2

theorem get?_run (s : Sys) (i : Nat) (h : Inv s.buf) :
    get? i s = (.ok (if i < s.buf.size then some (phys s.buf.start s.buf.cap i) else none), s) := by
  have hsz := h.size_le
  by_cases hz : s.buf.cap = 0 ∨ s.buf.size ≤ i
  · mrun [get?]
  have hi : i < s.buf.size := by omega
  obtain ⟨e, hcell⟩ := Option.isSome_iff_exists.1 (h.live i hi)
  have hst := h.start_lt' (by omega)
  have hW := h.cap_lt
  have hp := phys_lt s.buf.start s.buf.cap i (by omega)
  mrun [get?, getSlot_run, readInit_run _ _ _ _ hcell]

theorem front?_run (s : Sys) (h : Inv s.buf) :
    front? s = (.ok (if 0 < s.buf.size then some s.buf.start else none), s) := by
  have hsz := h.size_le
  by_cases hz : s.buf.cap = 0 ∨ s.buf.size = 0
  · mrun [front?]
  have hpos : 0 < s.buf.size := by omega
  obtain ⟨e, -, hcell⟩ := front_cell s.buf h hpos
  have hst := h.start_lt' (by omega)
  mrun [front?, frontSlot_run, readInit_run _ _ _ _ hcell]

theorem back?_run (s : Sys) (h : Inv s.buf) :
    back? s = (.ok (if 0 < s.buf.size then some (phys s.buf.start s.buf.cap (s.buf.size - 1))
      else none), s) := by
  have hsz := h.size_le
  by_cases hz : s.buf.cap = 0 ∨ s.buf.size = 0
  · mrun [back?]
  have hpos : 0 < s.buf.size := by omega
  obtain ⟨e, -, hcell⟩ := back_cell s.buf h hpos
  have hst := h.start_lt' (by omega)
  have hW := h.cap_lt
  have hp := phys_lt s.buf.start s.buf.cap (s.buf.size - 1) (by omega)
  mrun [back?, backSlot_run, readInit_run _ _ _ _ hcell]

theorem nthBack?_run (s : Sys) (i : Nat) (h : Inv s.buf) :
    nthBack? i s = (.ok (if i < s.buf.size then some (phys s.buf.start s.buf.cap (s.buf.size - 1 - i))
      else none), s) := by
  by_cases hi : i < s.buf.size
  · have h4 : s.buf.size - i - 1 = s.buf.size - 1 - i := by omega
    mrun [nthBack?, checkedSub, get?_run _ _ h, h4]
  · by_cases hi' : i = s.buf.size
    · mrun [nthBack?, checkedSub]
    · mrun [nthBack?, checkedSub]

end CircBuf

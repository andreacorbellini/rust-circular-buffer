import CircBuf.Lemmas.Swap
import CircBuf.Lemmas.Remove
import CircBuf.Lemmas.Contig
import CircBuf.Lemmas.Views
import CircBuf.Lemmas.Truncate
/-!
  On every state satisfying the invariant the model's core operations never end in a *defect* panic
  (overflow, out-of-bounds, empty-slot read, failed debug assertion): they return normally, or with a
  documented / user panic.  These are corollaries of the specification lemmas; the tie theorems of
  `Lemmas/Tie` take them as the hypothesis `hnd`.
-/
namespace CircBuf

theorem dropOutcome_nd (k n : Nat) : NonDefect (dropOutcome k n) := by
  unfold dropOutcome; split
  · rfl
  · trivial

theorem nd_pushBack (x : Elem) (s : Sys) (h : Inv s.buf) : NonDefect (pushBack x s).1 := (pushBack_spec s x h).nd
theorem nd_pushFront (x : Elem) (s : Sys) (h : Inv s.buf) : NonDefect (pushFront x s).1 := (pushFront_spec s x h).nd
theorem nd_tryPushBack (x : Elem) (s : Sys) (h : Inv s.buf) : NonDefect (tryPushBack x s).1 :=
  (tryPushBack_spec s x h).nd
theorem nd_tryPushFront (x : Elem) (s : Sys) (h : Inv s.buf) : NonDefect (tryPushFront x s).1 :=
  (tryPushFront_spec s x h).nd
theorem nd_popBack (s : Sys) (h : Inv s.buf) : NonDefect (popBack s).1 := (popBack_spec s h).nd
theorem nd_popFront (s : Sys) (h : Inv s.buf) : NonDefect (popFront s).1 := (popFront_spec s h).nd
theorem nd_remove (i : Nat) (s : Sys) (h : Inv s.buf) : NonDefect (remove i s).1 := (remove_spec s i h).nd
theorem nd_swapRemoveBack (i : Nat) (s : Sys) (h : Inv s.buf) : NonDefect (swapRemoveBack i s).1 :=
  (swapRemoveBack_spec s i h).nd
theorem nd_swapRemoveFront (i : Nat) (s : Sys) (h : Inv s.buf) : NonDefect (swapRemoveFront i s).1 :=
  (swapRemoveFront_spec s i h).nd
theorem nd_swap (i j : Nat) (s : Sys) (h : Inv s.buf) : NonDefect (swap i j s).1 := by
  by_cases hi : i < s.buf.size
  · by_cases hj : j < s.buf.size
    · exact (swap_spec s i j h hi hj).nd
    · exact nd_of_eq (swap_panics_j s i j hi hj) rfl
  · exact nd_of_eq (swap_panics_i s i j hi) rfl
theorem nd_makeContiguous (s : Sys) (h : Inv s.buf) : NonDefect (makeContiguous s).1 := by
  obtain ⟨b', v, e, _⟩ := makeContiguous_spec s h; exact nd_of_eq e trivial
theorem nd_get (i : Nat) (s : Sys) (h : Inv s.buf) : NonDefect (get? i s).1 := nd_of_eq (get?_run s i h) trivial
theorem nd_front (s : Sys) (h : Inv s.buf) : NonDefect (front? s).1 := nd_of_eq (front?_run s h) trivial
theorem nd_back (s : Sys) (h : Inv s.buf) : NonDefect (back? s).1 := nd_of_eq (back?_run s h) trivial
theorem nd_nthBack (i : Nat) (s : Sys) (h : Inv s.buf) : NonDefect (nthBack? i s).1 :=
  nd_of_eq (nthBack?_run s i h) trivial

/-! destroying operations, whatever the fault plan and the element kind: a destructor may panic, that is
no defect -/
theorem dropAll_nd (es : List Elem) (s : Sys) : NonDefect (dropAll es s).1 := by
  unfold dropAll; split
  · trivial
  · exact dropOutcome_nd _ _
theorem Destroys.nd {op : M Unit} {s : Sys} {xs' es : List Elem} (h : Destroys op s xs' es) :
    NonDefect (op s).1 := by
  obtain ⟨b', e, _⟩ := h; rw [e]; exact dropAll_nd _ _
theorem nd_truncateBack (n : Nat) (s : Sys) (h : Inv s.buf) : NonDefect (truncateBack n s).1 :=
  (truncateBack_destroys s n h).nd
theorem nd_truncateFront (n : Nat) (s : Sys) (h : Inv s.buf) : NonDefect (truncateFront n s).1 :=
  (truncateFront_destroys s n h).nd
theorem nd_clear (s : Sys) (h : Inv s.buf) : NonDefect (clear s).1 := (clear_destroys s h).nd
theorem nd_dropRange (rs re : Nat) (s : Sys) (h : Inv s.buf)
    (h1 : rs < re) (h2 : re ≤ s.buf.size) (h3 : rs = 0 ∨ re = s.buf.size) :
    NonDefect (dropRange rs re s).1 := by
  rw [dropRange_eq s rs re h h1 h2 h3]; exact dropAll_nd _ _

end CircBuf

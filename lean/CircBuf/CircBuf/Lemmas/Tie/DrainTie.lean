import CircBuf.Lemmas.TieTac
import CircBuf.Lemmas.Tie.IterTie
import CircBuf.Lemmas.While
set_option linter.unusedSimpArgs false
set_option linter.unusedVariables false
/-! Tie theorems (the draining iterator of `drain.rs`: `Drain::{over_range, read, as_slices, as_mut_slices}`,
`Iterator::next`, `DoubleEndedIterator::next_back`, `ExactSizeIterator::len`, the four functions of
`CircularSlicePtr`, and `Drop for Drain` with its back-fill loop) — see `CircBuf/Lemmas/CoreTie.lean` for what they
are.  The stepping functions are tied on every state; the two slicing functions and `drop` under the invariant. -/
namespace CircBuf

maybe theorem tie_drain_over_range (sb eb : Bound) (s : Sys) :
    Gen.Drain_over_range sb eb s = Drain.new sb eb s := by
  first
  | rfl
  | (simp only [Gen.Drain_over_range, Drain.new]
     exact bind_congr_run (tie_translate_range_bounds sb eb s) fun _ _ _ => rfl)

maybe theorem tie_drain_read (d : Drain) (index : Nat) (s : Sys) :
    Gen.Drain_read d index s = Drain.read d index s := by
  -- (`rfl` last: it serves a body outside the subset, and failing on the two real bodies is dear)
  first | (tie [Gen.Drain_read, Drain.read]; done) | rfl

/-! `next`, `next_back`: an exhausted iterator returns at once on both sides; otherwise both read the slot the
iterator steps over — `read` by its tie — and return what they have read. -/

maybe theorem tie_drain_next (d : Drain) (s : Sys) : Gen.Drain_next d s = Drain.next d s := by
  first
  | rfl
  | (by_cases hlt : d.is < d.ie <;>
       simp only [Gen.Drain_next, Drain.next, Drain.stepFront, hlt, if_true, if_false, ↓bind_assoc_run, ↓pure_bind_run]
     exact bind_congr_run (tie_drain_read _ _ s) fun _ _ _ => rfl)

maybe theorem tie_drain_next_back (d : Drain) (s : Sys) : Gen.Drain_next_back d s = Drain.nextBack d s := by
  first
  | rfl
  | (by_cases hlt : d.is < d.ie <;>
       simp only [Gen.Drain_next_back, Drain.nextBack, Drain.stepBack, hlt, if_true, if_false, ↓bind_assoc_run,
         ↓pure_bind_run]
     exact bind_congr_run (tie_drain_read _ _ s) fun _ _ _ => rfl)

maybe /-- the not-yet-yielded part as two slices (`Drain::as_slices` / `as_mut_slices`), on the states
satisfying the invariant (during a drain the buffer has `size = 0`: `DrainInv` gives it) -/
theorem tie_drain_as_slices (d : Drain) (s : Sys) (h : Inv s.buf) :
    Gen.Drain_as_slices d s = Drain.asSlices d s := by
  first | rfl | (tieFrag h [Gen.Drain_as_slices, Drain.asSlices]; done)
maybe theorem tie_drain_as_mut_slices (d : Drain) (s : Sys) (h : Inv s.buf) :
    Gen.Drain_as_mut_slices d s = Drain.asSlices d s := by
  first
  | rfl
  | sameBody [Gen.Drain_as_mut_slices, Gen.Drain_as_slices] (tie_drain_as_slices d s h)
  | (tieFrag h [Gen.Drain_as_mut_slices, Drain.asSlices]; done)

maybe theorem tie_csp_as_ptr : Gen.CSP_as_ptr = CSP.ptr := by
  first | rfl | (funext p s; tie [Gen.CSP_as_ptr, CSP.ptr]; done)
maybe theorem tie_csp_as_mut_ptr : Gen.CSP_as_mut_ptr = CSP.ptr := by
  first | rfl | (funext p s; tie [Gen.CSP_as_mut_ptr, CSP.ptr]; done)
maybe theorem tie_csp_available_len : Gen.CSP_available_len = CSP.availableLen := by
  first | rfl | (funext p s; tie [Gen.CSP_available_len, CSP.availableLen]; done)
maybe theorem tie_csp_add : Gen.CSP_add = CSP.add := by
  first | rfl | (funext p inc s; tie [Gen.CSP_add, CSP.add]; done)

/-- `Drain::as_slices` only reads -/
theorem Drain.asSlices_state (d : Drain) (s : Sys) : (Drain.asSlices d s).2 = s := by
  tie [Drain.asSlices]

maybe /-- one iteration of the back-fill loop of `Drop for Drain`, on a well-formed loop state: the checked
arithmetic is evaluated (no branch can fail there), so the order in which the body advances its three
variables, or nests its `min`s, does not matter -/
theorem tie_drain_drop_step (d : Drain) (x : CSP × CSP × Nat) (s : Sys) (hI : LoopOK x) :
    Gen.Drain_drop_step d x s = backfillStep x s := by
  first
  | rfl
  | (rw [backfillStep_run x s hI]
     obtain ⟨h1, h2, h3, h4⟩ := hI
     obtain ⟨⟨bl, bo⟩, ⟨hl, ho⟩, rem⟩ := x
     simp only [backfillChunk] at *
     simp only [Gen.Drain_drop_step, tie_csp_as_ptr, tie_csp_as_mut_ptr, tie_csp_available_len, tie_csp_add,
       CSP.availableLen, CSP.ptr, CSP.add, ↓bind_assoc_run, ↓dassert_bind, ↓getBuf_bind,
       ↓setBuf_bind, ↓pure_bind_run, ↓raise_bind, ↓ite_bind, ↓ite_run, ↓dassert_run, ↓getBuf_run, ↓setBuf_run, ↓liftE_bind,
       ↓pure_run, ↓raise_run, amod, smod, setItems, decide_eq_true_eq]
     repeat' (first
       | (with_reducible rfl)
       | minUnify
       | (simp (disch := omega) only [↓if_pos, ↓addMod_ite, ↓usub_ok, phys_ite, ↓liftE_bind, ↓liftE_run, ↓pure_run,
           ↓bind_assoc_run, ↓pure_bind_run, ↓setBuf_bind, ↓getBuf_bind])
       | ifsplit1)
     all_goals (try rfl)
     done)

maybe /-- the whole loop, for every amount of fuel: the congruence of `whileFuel` under the invariant `LoopOK` -/
theorem tie_drain_drop_loop (d : Drain) (fuel : Nat) (x : CSP × CSP × Nat) (s : Sys) (hI : LoopOK x) :
    whileFuel (fun x : CSP × CSP × Nat => decide (x.2.2 > 0)) (Gen.Drain_drop_step d) fuel x s =
      backfillLoop fuel x.2.1 x.1 x.2.2 s := by
  rw [backfillLoop_eq_while]
  exact whileFuel_congr _ _ _ LoopOK (fun x s hI _ => tie_drain_drop_step d x s hI)
    (fun x s x' s' hI _ hg => backfillStep_pres x s x' s' hI hg) fuel x s hI

maybe /-- `Drop for Drain`.  Zero capacity: nothing is dropped and nothing moves on either side.  Otherwise: the
two slices (by the tie of `as_mut_slices`, which only reads) and their destruction are the same first steps on both
sides; on the state they leave, whose buffer they did not touch (`PB.tryFinally`), the set-up of the circular pointers
and of the counters is *evaluated* on both sides (everything is in range because the drained range lies inside the
buffer; the discharger is for these side conditions and for `LoopOK` of the initial loop state) and the loop is
replaced by the model's (`tie_drain_drop_loop`).  The order of the set-up statements, where the capacity test sits and
when the restored size is computed therefore do not matter. -/
theorem tie_drain_drop (d : Drain) (s : Sys) (h : Inv s.buf) (hrs : d.rs ≤ s.buf.cap) (hre : d.re ≤ s.buf.cap)
    (hbs : d.re ≤ d.bufSize) :
    Gen.Drain_drop d s = Drain.drop d s := by
  first
  | rfl
  | (
     have hW := h.cap_lt
     have hst := h.start_lt
     by_cases hc : s.buf.cap = 0
     · simp only [Gen.Drain_drop, Drain.drop, tie_drain_as_mut_slices d s h, Drain.asSlices, ↓bind_run, ↓getBuf_bind,
         ↓getBuf_run, ↓ite_run, hc, true_or, if_true, ↓pure_run, View.slots, View.empty, range'_zero_len, dropInPlace_nil,
         tryFinally, ↓bind_assoc_run, ↓pure_bind_run]
     · simp only [Gen.Drain_drop, Drain.drop, ↓getBuf_bind, ↓ite_run, hc, if_false]
       refine bind_congr_run (tie_drain_as_mut_slices d s h) fun rl s0 hsl => ?_
       obtain rfl : s0 = s := by have := Drain.asSlices_state d s; rwa [hsl] at this
       refine bind_congr_ok fun _ s1 htf => ?_
       have hb : s1.buf = s0.buf := by
         have := PB.tryFinally (PB.dropInPlace rl.1.slots) (PB.dropInPlace rl.2.slots) s0
         rwa [htf] at this
       simp (disch := first
           | omega
           | (dsimp only; omega)
           | (dsimp only; exact phys_lt _ _ _ (by omega))
           | (unfold LoopOK; refine ⟨?_, ?_, ?_, ?_⟩ <;> dsimp only <;> first | omega | (exact phys_lt _ _ _ (by omega))))
         only [tie_csp_add, ↓getBuf_bind, ↓getBuf_run, ↓ite_run, ↓bind_assoc_run, ↓liftE_bind, ↓liftE_run, hb, hc, if_false,
           ite_false, ↓bind_run, ↓usub_ok, CSP.add_run, tie_drain_drop_loop, setSize, ↓setBuf_run, ↓pure_run, ↓pure_bind_run])

maybe theorem tie_drain_len (d : Drain) (s : Sys) : Gen.Drain_len d s = (.ok d.len, s) := by
  first | rfl | tie [Gen.Drain_len, Drain.len]

end CircBuf

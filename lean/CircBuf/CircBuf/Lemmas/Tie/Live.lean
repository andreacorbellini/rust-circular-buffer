import CircBuf.Lemmas.LiveEq
import CircBuf.Lemmas.Tie.PushPop
import CircBuf.Lemmas.Tie.Swap
import CircBuf.Lemmas.Tie.Remove
set_option linter.unusedSimpArgs false
set_option linter.unusedVariables false
/-!
The ties of the element-level mutators in their weak form (`LiveEq`: equal up to the contents of the dead
slots — see `Lemmas/LiveEq.lean`).  Each follows from the strong tie of `Lemmas/Tie/*.lean` when that one
checks; when it does not (the body was rewritten and now leaves other stale bytes behind), the weak
statement is proved directly from the two bodies (`tieLive`).
-/
namespace CircBuf
maybe theorem ltie_push_back (x : Elem) (s : Sys) (h : Inv s.buf) (hnd : NonDefect (pushBack x s).1) :
    LiveEq (Gen.push_back x s) (pushBack x s) := by
  first
  | exact LiveEq.of_eq (tie_push_back x s h hnd)
  | tieLive h hnd

maybe theorem ltie_push_front (x : Elem) (s : Sys) (h : Inv s.buf) (hnd : NonDefect (pushFront x s).1) :
    LiveEq (Gen.push_front x s) (pushFront x s) := by
  first
  | exact LiveEq.of_eq (tie_push_front x s h hnd)
  | tieLive h hnd

maybe theorem ltie_try_push_back (x : Elem) (s : Sys) (h : Inv s.buf) (hnd : NonDefect (tryPushBack x s).1) :
    LiveEq (Gen.try_push_back x s) (tryPushBack x s) := by
  first
  | exact LiveEq.of_eq (tie_try_push_back x s h hnd)
  | tieLive h hnd

maybe theorem ltie_try_push_front (x : Elem) (s : Sys) (h : Inv s.buf) (hnd : NonDefect (tryPushFront x s).1) :
    LiveEq (Gen.try_push_front x s) (tryPushFront x s) := by
  first
  | exact LiveEq.of_eq (tie_try_push_front x s h hnd)
  | tieLive h hnd

maybe theorem ltie_pop_back (s : Sys) (h : Inv s.buf) (hnd : NonDefect (popBack s).1) :
    LiveEq (Gen.pop_back s) (popBack s) := by
  first
  | exact LiveEq.of_eq (tie_pop_back s h hnd)
  | tieLive h hnd

maybe theorem ltie_pop_front (s : Sys) (h : Inv s.buf) (hnd : NonDefect (popFront s).1) :
    LiveEq (Gen.pop_front s) (popFront s) := by
  first
  | exact LiveEq.of_eq (tie_pop_front s h hnd)
  | tieLive h hnd

maybe theorem ltie_swap (i j : Nat) (s : Sys) (h : Inv s.buf) (hnd : NonDefect (swap i j s).1) :
    LiveEq (Gen.swap i j s) (swap i j s) := by
  first
  | exact LiveEq.of_eq (tie_swap i j s h hnd)
  | tieLive h hnd

maybe theorem ltie_swap_remove_back (i : Nat) (s : Sys) (h : Inv s.buf) (hnd : NonDefect (swapRemoveBack i s).1) :
    LiveEq (Gen.swap_remove_back i s) (swapRemoveBack i s) := by
  first
  | exact LiveEq.of_eq (tie_swap_remove_back i s h hnd)
  | tieLive h hnd

maybe theorem ltie_swap_remove_front (i : Nat) (s : Sys) (h : Inv s.buf) (hnd : NonDefect (swapRemoveFront i s).1) :
    LiveEq (Gen.swap_remove_front i s) (swapRemoveFront i s) := by
  first
  | exact LiveEq.of_eq (tie_swap_remove_front i s h hnd)
  | tieLive h hnd

maybe theorem ltie_remove (i : Nat) (s : Sys) (h : Inv s.buf) (hnd : NonDefect (remove i s).1) :
    LiveEq (Gen.remove i s) (remove i s) := by
  first
  | exact LiveEq.of_eq (tie_remove i s h hnd)
  | tieLive h hnd

end CircBuf

import CircBuf.Lemmas.TieTac
import CircBuf.Lemmas.Tie.PushPop
import CircBuf.Lemmas.NonDefect
set_option linter.unusedSimpArgs false
set_option linter.unusedVariables false
/-! Tie theorems (swap group) — see `CircBuf/Lemmas/CoreTie.lean` for what they are. -/
namespace CircBuf

maybe theorem tie_swap (i j : Nat) (s : Sys) (h : Inv s.buf)
    (hnd : NonDefect (swap i j s).1) :
    Gen.swap i j s = swap i j s := by
  tieNd h hnd [Gen.swap, swap]

maybe /-- the documented panics of `swap`, evaluated directly on the translated body (no invariant needed) -/
theorem gen_swap_panics_i (s : Sys) (i j : Nat) (hi : ¬ i < s.buf.size) :
    Gen.swap i j s = (.error (.doc "swap_i"), s) := by
  first | (tie [Gen.swap]; done) | exact swap_panics_i s i j hi
maybe theorem gen_swap_panics_j (s : Sys) (i j : Nat) (hi : i < s.buf.size) (hj : ¬ j < s.buf.size) :
    Gen.swap i j s = (.error (.doc "swap_j"), s) := by
  first | (tie [Gen.swap]; done) | exact swap_panics_j s i j hi hj

maybe /-- `swap_remove_back`: through the ties of `swap` and `pop_back` if the body still is the one followed by the
other; else by unfolding the whole fragment -/
theorem tie_swap_remove_back (i : Nat) (s : Sys) (h : Inv s.buf)
    (hnd : NonDefect (swapRemoveBack i s).1) :
    Gen.swap_remove_back i s = swapRemoveBack i s := by
  first
  | (simp only [Gen.swap_remove_back, swapRemoveBack, ↓getBuf_bind, ↓bind_assoc_run, ↓ite_run, ↓pure_run, ↓liftE_bind]
     split
     · rfl
     · rename_i hlt
       have hi : i < s.buf.size := by omega
       have hu := usub_ok s.buf.size 1 (by omega)
       simp only [hu, ↓bind_run, tie_swap i (s.buf.size - 1) s h (nd_swap _ _ s h)]
       obtain ⟨b', e, hI', _⟩ := swap_spec s i (s.buf.size - 1) h hi (by omega)
       simp only [e, tie_pop_back { s with buf := b' } hI' (nd_popBack _ hI'), ↓pure_run]
       done)
  | (tieNd h hnd [Gen.swap_remove_back, swapRemoveBack]; done)
maybe theorem tie_swap_remove_front (i : Nat) (s : Sys) (h : Inv s.buf)
    (hnd : NonDefect (swapRemoveFront i s).1) :
    Gen.swap_remove_front i s = swapRemoveFront i s := by
  first
  | (simp only [Gen.swap_remove_front, swapRemoveFront, ↓getBuf_bind, ↓bind_assoc_run, ↓ite_run, ↓pure_run]
     split
     · rfl
     · rename_i hlt
       have hi : i < s.buf.size := by omega
       simp only [↓bind_run, tie_swap i 0 s h (nd_swap _ _ s h)]
       obtain ⟨b', e, hI', _⟩ := swap_spec s i 0 h hi (by omega)
       simp only [e, tie_pop_front { s with buf := b' } hI' (nd_popFront _ hI'), ↓pure_run]
       done)
  | (tieNd h hnd [Gen.swap_remove_front, swapRemoveFront]; done)

end CircBuf

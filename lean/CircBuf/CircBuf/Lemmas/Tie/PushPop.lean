import CircBuf.Lemmas.TieTac
set_option linter.unusedSimpArgs false
set_option linter.unusedVariables false
/-! Tie theorems (push / pop group) — see `CircBuf/Lemmas/CoreTie.lean` for what they are. -/
namespace CircBuf

maybe theorem tie_push_back (x : Elem) (s : Sys) (h : Inv s.buf)
    (hnd : NonDefect (pushBack x s).1) :
    Gen.push_back x s = pushBack x s := by
  tieNd h hnd [Gen.push_back, pushBack]
maybe theorem tie_push_front (x : Elem) (s : Sys) (h : Inv s.buf)
    (hnd : NonDefect (pushFront x s).1) :
    Gen.push_front x s = pushFront x s := by
  tieNd h hnd [Gen.push_front, pushFront]
maybe theorem tie_try_push_back (x : Elem) (s : Sys) (h : Inv s.buf)
    (hnd : NonDefect (tryPushBack x s).1) :
    Gen.try_push_back x s = tryPushBack x s := by
  tieNd h hnd [Gen.try_push_back, tryPushBack]
maybe theorem tie_try_push_front (x : Elem) (s : Sys) (h : Inv s.buf)
    (hnd : NonDefect (tryPushFront x s).1) :
    Gen.try_push_front x s = tryPushFront x s := by
  tieNd h hnd [Gen.try_push_front, tryPushFront]
maybe theorem tie_pop_back (s : Sys) (h : Inv s.buf)
    (hnd : NonDefect (popBack s).1) :
    Gen.pop_back s = popBack s := by
  tieNd h hnd [Gen.pop_back, popBack]
maybe theorem tie_pop_front (s : Sys) (h : Inv s.buf)
    (hnd : NonDefect (popFront s).1) :
    Gen.pop_front s = popFront s := by
  tieNd h hnd [Gen.pop_front, popFront]

end CircBuf

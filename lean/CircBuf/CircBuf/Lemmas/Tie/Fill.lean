import CircBuf.Lemmas.TieTac
import CircBuf.Lemmas.Tie.PushPop
import CircBuf.Lemmas.Tie.Truncate
import CircBuf.Lemmas.NonDefect
import CircBuf.Lemmas.While
set_option linter.unusedSimpArgs false
set_option linter.unusedVariables false
/-! Tie theorems (`fill_spare_with`, `fill_with`: the closure-calling operations) — see
`CircBuf/Lemmas/CoreTie.lean` for what they are.  The `while self.size < N` loop is the fuelled loop `whileM`
(`Mem.lean`) over the translated body; `whileM_congr` reduces its tie to the tie of one iteration on the
states satisfying the invariant, which the model's iteration preserves. -/
namespace CircBuf

/-- one iteration of the model's `fill_spare_with` loop -/
def fillWithBody : M Unit := do
  let e ← produceElem "call"
  let r ← pushBack e
  dropOpt r

theorem fillSpareWithLoop_eq_whileM (fuel : Nat) :
    fillSpareWithLoop fuel =
      whileM "fill_spare_with: fuel exhausted" (do pure (decide ((← getBuf).size < (← getBuf).cap))) fillWithBody fuel := by
  funext s
  induction fuel generalizing s with
  | zero => simp only [fillSpareWithLoop, whileM, ↓bind_assoc_run, ↓getBuf_bind, ↓pure_bind_run, decide_eq_true_eq]
  | succ n ih =>
    simp only [fillSpareWithLoop, whileM, fillWithBody, ↓bind_assoc_run, ↓getBuf_bind, ↓pure_bind_run,
      decide_eq_true_eq, M.bind_assoc]
    split
    · exact bind_congr_ok fun e s1 _ => bind_congr_ok fun r s2 _ => bind_congr_ok fun _ s3 _ => ih s3
    · rfl

/-- the model's iteration preserves the invariant: only `push_back` touches the buffer -/
theorem fillWithBody_inv (s s' : Sys) (h : Inv s.buf) (hg : fillWithBody s = (.ok (), s')) : Inv s'.buf := by
  obtain ⟨e, s1, h1, hg⟩ := bind_ok hg
  obtain ⟨r, s2, h2, hg⟩ := bind_ok hg
  have hb1 := PB.produceElem "call" s
  have hb3 := PB.dropOpt r s2
  rw [h1] at hb1
  rw [hg] at hb3
  obtain ⟨b', e2, hI', _⟩ := pushBack_spec s1 e (hb1 ▸ h)
  rw [h2] at e2
  rw [hb3, (Prod.mk.inj e2).2]
  exact hI'

/-- the translated loop is the model's: its body is the model's iteration with `push_back` replaced by a function `pb`
that agrees with it on the states satisfying the invariant (the translated `push_back`, by its tie) — and these are
the states the loop goes through -/
theorem whileM_fill_tie {pb : Elem → M (Option Elem)} (hpb : ∀ e s, Inv s.buf → pb e s = pushBack e s)
    (fuel : Nat) (s : Sys) (h : Inv s.buf) :
    whileM "fill_spare_with: fuel exhausted" (do pure (decide ((← getBuf).size < (← getBuf).cap)))
      (do let e ← produceElem "call"; let r ← pb e; dropOpt r; pure ()) fuel s = fillSpareWithLoop fuel s := by
  rw [fillSpareWithLoop_eq_whileM]
  refine whileM_congr _ _ _ fillWithBody (fun s => Inv s.buf) (fun _ => rfl) (fun s0 h0 => ?_) fillWithBody_inv fuel s h
  refine bind_congr_ok fun e s1 h1 => ?_
  have hb := PB.produceElem "call" s0
  rw [h1] at hb
  exact bind_congr_run (hpb e s1 (hb ▸ h0)) fun r s2 _ => bind_pure_unit_run _ s2

maybe theorem tie_fill_spare_with (s : Sys) (h : Inv s.buf) : Gen.fill_spare_with s = fillSpareWith s := by
  first
  | rfl
  | simp only [Gen.fill_spare_with, fillSpareWith, bind_pure_unit_run, ↓getBuf_bind, ↓ite_run,
      whileM_fill_tie (fun e s h => tie_push_back e s h (nd_pushBack e s h)) _ s h]

maybe /-- `fill_with`: `clear` (by its tie), then — on the state it leaves, which satisfies the invariant and has
the same capacity (`hI`, which the callers have from `clear_spec`) — the loop, wherever the body puts the capacity
test and whether it calls `fill_spare_with` or runs the loop itself -/
theorem tie_fill_with (s : Sys) (h : Inv s.buf) (hnd : NonDefect (clear s).1)
    (hI : ∀ s1, clear s = (.ok (), s1) → Inv s1.buf ∧ s1.buf.cap = s.buf.cap) : Gen.fill_with s = fillWith s := by
  first
  | rfl
  | (have hcl := tie_clear s h hnd
     by_cases hc : s.buf.cap = 0
     · -- nothing to clear, nothing to fill
       have hcl0 : clear s = (.ok (), s) := truncateBack_done 0 s (.inl hc)
       simp only [Gen.fill_with, Gen.fill_spare_with, fillWith, fillSpareWith, ↓bind_run, hcl, hcl0, ↓getBuf_bind,
         ↓getBuf_run, ↓ite_run, hc, if_true, ↓pure_run]
     · simp only [Gen.fill_with, fillWith, ↓getBuf_bind, ↓ite_run, hc, if_false]
       refine bind_congr_run hcl fun _ s1 hcs => ?_
       obtain ⟨hI1, hcap⟩ := hI s1 hcs
       simp only [Gen.fill_spare_with, fillSpareWith, bind_pure_unit_run, ↓getBuf_bind, ↓ite_run, hcap, hc, if_false,
         whileM_fill_tie (fun e s h => tie_push_back e s h (nd_pushBack e s h)) _ s1 hI1])

end CircBuf

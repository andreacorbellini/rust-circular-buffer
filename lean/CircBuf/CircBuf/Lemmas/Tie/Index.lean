import CircBuf.Lemmas.TieTac
set_option linter.unusedSimpArgs false
set_option linter.unusedVariables false
/-! Tie theorems (index group) — see `CircBuf/Lemmas/CoreTie.lean` for what they are. -/
namespace CircBuf

maybe theorem tie_inc_start (s : Sys) (h : Inv s.buf) :
    Gen.inc_start s = incStart s := by
  tieFrag h [Gen.inc_start, incStart]
maybe theorem tie_dec_start (s : Sys) (h : Inv s.buf) :
    Gen.dec_start s = decStart s := by
  tieFrag h [Gen.dec_start, decStart]
maybe theorem tie_inc_size (s : Sys) (h : Inv s.buf) :
    Gen.inc_size s = incSize s := by
  tieFrag h [Gen.inc_size, incSize]
maybe theorem tie_dec_size (s : Sys) (h : Inv s.buf) :
    Gen.dec_size s = decSize s := by
  tieFrag h [Gen.dec_size, decSize]
maybe theorem tie_front_slot_mut (s : Sys) (h : Inv s.buf) :
    Gen.front_maybe_uninit_mut s = frontSlot s := by
  tieFrag h [Gen.front_maybe_uninit_mut, frontSlot]
maybe theorem tie_front_slot (s : Sys) (h : Inv s.buf) :
    Gen.front_maybe_uninit s = frontSlot s := by
  tieFrag h [Gen.front_maybe_uninit, frontSlot]
maybe theorem tie_back_slot (s : Sys) (h : Inv s.buf) :
    Gen.back_maybe_uninit s = backSlot s := by
  tieFrag h [Gen.back_maybe_uninit, backSlot]
maybe theorem tie_back_slot_mut (s : Sys) (h : Inv s.buf) :
    Gen.back_maybe_uninit_mut s = backSlot s := by
  tieFrag h [Gen.back_maybe_uninit_mut, backSlot]
maybe theorem tie_get_slot (i : Nat) (s : Sys) (h : Inv s.buf) :
    Gen.get_maybe_uninit i s = getSlot i s := by
  tieFrag h [Gen.get_maybe_uninit, getSlot]
maybe theorem tie_get_slot_mut (i : Nat) (s : Sys) (h : Inv s.buf) :
    Gen.get_maybe_uninit_mut i s = getSlot i s := by
  tieFrag h [Gen.get_maybe_uninit_mut, getSlot]
maybe theorem tie_slices_uninit_mut (s : Sys) (h : Inv s.buf) :
    Gen.slices_uninit_mut s = slicesUninitMut s := by
  tieFrag h [Gen.slices_uninit_mut, slicesUninitMut]
maybe theorem tie_as_slices (s : Sys) (h : Inv s.buf) :
    Gen.as_slices s = asSlices s := by
  tieFrag h [Gen.as_slices, asSlices, asSlicesOf, dassertE]
maybe theorem tie_as_mut_slices (s : Sys) (h : Inv s.buf) :
    Gen.as_mut_slices s = asSlices s := by
  first
  | sameBody [Gen.as_mut_slices, Gen.as_slices] (tie_as_slices s h)
  | tieFrag h [Gen.as_mut_slices, asSlices, asSlicesOf, dassertE]

maybe theorem tie_len (s : Sys) : Gen.len s = (.ok s.buf.size, s) := rfl
maybe theorem tie_is_empty (s : Sys) : Gen.is_empty s = (.ok (decide (s.buf.size = 0)), s) := rfl
maybe theorem tie_is_full (s : Sys) : Gen.is_full s = (.ok (decide (s.buf.size = s.buf.cap)), s) := rfl

end CircBuf

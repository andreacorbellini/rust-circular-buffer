import CircBuf.Lemmas.TieTac
import CircBuf.Lemmas.Iter
import CircBuf.Lemmas.Tie.Index
set_option linter.unusedSimpArgs false
set_option linter.unusedVariables false
/-! Tie theorems (iterator layer of `iter.rs`: `translate_range_bounds`, `Iter::{empty, new,
advance_front_by, advance_back_by, over_range, len, next, next_back}` and the same eight of `IterMut`) — see
`CircBuf/Lemmas/CoreTie.lean` for what they are.  The iterator layer only reads the buffer, so most of them hold
on every state; `new` and `over_range` go through `as_slices` and need the invariant. -/
namespace CircBuf

maybe theorem tie_translate_range_bounds (sb eb : Bound) (s : Sys) :
    Gen.translate_range_bounds sb eb s = translateRange sb eb s := by
  cases sb <;> cases eb <;>
    tie [Gen.translate_range_bounds, translateRange, Bound.startE, Bound.endE, checkedAdd]

maybe theorem tie_iter_empty (s : Sys) : Gen.Iter_empty s = (.ok Iter.empty, s) := rfl

maybe theorem tie_iter_advance_front_by (it : Iter) (count : Nat) (s : Sys) :
    Gen.Iter_advance_front_by it count s = Iter.advanceFrontBy it count s := by
  tie [Gen.Iter_advance_front_by, Iter.advanceFrontBy, View.takeTo]

maybe theorem tie_iter_advance_back_by (it : Iter) (count : Nat) (s : Sys) :
    Gen.Iter_advance_back_by it count s = Iter.advanceBackBy it count s := by
  tie [Gen.Iter_advance_back_by, Iter.advanceBackBy, View.takeFrom]

maybe theorem tie_iter_len (it : Iter) (s : Sys) : Gen.Iter_len it s = Iter.len it s := by
  tie [Gen.Iter_len, Iter.len]

/-! `next`, `next_back`: pure code over the two views of the iterator, unfolded and compared case by case. -/

maybe theorem tie_iter_next (it : Iter) (s : Sys) : Gen.Iter_next it s = (.ok (Iter.next it), s) := by
  first
  | rfl
  | (simp only [Gen.Iter_next, Iter.next, View.takeFirst, View.takeLast, ↓pure_run, ↓bind_run, ↓ite_run]
     repeat' (first | rfl | ifsplit1 | split))

maybe theorem tie_iter_next_back (it : Iter) (s : Sys) : Gen.Iter_next_back it s = (.ok (Iter.nextBack it), s) := by
  first
  | rfl
  | (simp only [Gen.Iter_next_back, Iter.nextBack, View.takeFirst, View.takeLast, ↓pure_run, ↓bind_run, ↓ite_run]
     repeat' (first | rfl | ifsplit1 | split))

maybe /-- `as_slices` by its tie if the body still calls it, else by evaluating everything -/
theorem tie_iter_new (s : Sys) (h : Inv s.buf) : Gen.Iter_new s = Iter.new s := by
  first
  | (callEval [Gen.Iter_new, Iter.new, tie_as_slices s h]; done)
  | tieFrag h [Gen.Iter_new, Iter.new]

/-- `over_range` from the ties of its callees (`ls`, with the definition to unfold).  A failing
`translate_range_bounds` fails both sides alike; otherwise the range lies inside the buffer, `len - end` cannot fail,
and it does not matter when the body computes it or where it tests for the empty range. -/
syntax "overRangeTie" ident ident ident "[" Lean.Parser.Tactic.simpLemma,* "]" : tactic
macro_rules
  | `(tactic| overRangeTie $sb $eb $s [$ls,*]) => `(tactic| (
     rcases translateRange_cases $sb $eb $s with ⟨p, e⟩ | ⟨st, en, e, hb⟩
     · simp only [$ls,*, Iter.overRange, ↓bind_run, tie_translate_range_bounds, e]
     · simp only [$ls,*, Iter.overRange, tie_translate_range_bounds, e, usub_ok _ _ hb.1, ↓getBuf_bind, ↓getBuf_run,
         ↓ite_run, ↓ite_bind, ↓bind_run, ↓pure_run, ↓liftE_bind, ↓liftE_run, ↓bind_assoc_run, ↓pure_bind_run]
       repeat' (first | rfl | ifsplit1 | split)))

maybe theorem tie_iter_over_range (sb eb : Bound) (s : Sys) (h : Inv s.buf) :
    Gen.Iter_over_range sb eb s = Iter.overRange sb eb s := by
  first
  | rfl
  | overRangeTie sb eb s [Gen.Iter_over_range, tie_iter_empty, tie_iter_new s h, tie_iter_advance_front_by,
      tie_iter_advance_back_by]

/-! ### `IterMut`: its own copy of the same code, tied to the same model functions -/

maybe theorem tie_itermut_empty (s : Sys) : Gen.IterMut_empty s = (.ok Iter.empty, s) := rfl

maybe theorem tie_itermut_advance_front_by (it : Iter) (count : Nat) (s : Sys) :
    Gen.IterMut_advance_front_by it count s = Iter.advanceFrontBy it count s := by
  first
  | sameBody [Gen.IterMut_advance_front_by, Gen.Iter_advance_front_by] (tie_iter_advance_front_by it count s)
  | tie [Gen.IterMut_advance_front_by, Iter.advanceFrontBy, View.takeTo]

maybe theorem tie_itermut_advance_back_by (it : Iter) (count : Nat) (s : Sys) :
    Gen.IterMut_advance_back_by it count s = Iter.advanceBackBy it count s := by
  first
  | sameBody [Gen.IterMut_advance_back_by, Gen.Iter_advance_back_by] (tie_iter_advance_back_by it count s)
  | tie [Gen.IterMut_advance_back_by, Iter.advanceBackBy, View.takeFrom]

maybe theorem tie_itermut_len (it : Iter) (s : Sys) : Gen.IterMut_len it s = Iter.len it s := by
  first
  | sameBody [Gen.IterMut_len, Gen.Iter_len] (tie_iter_len it s)
  | tie [Gen.IterMut_len, Iter.len]

maybe theorem tie_itermut_next (it : Iter) (s : Sys) : Gen.IterMut_next it s = (.ok (Iter.next it), s) := by
  first
  | rfl
  | sameBody [Gen.IterMut_next, Gen.Iter_next] (tie_iter_next it s)
  | (simp only [Gen.IterMut_next, Iter.next, View.takeFirst, View.takeLast, ↓pure_run, ↓bind_run, ↓ite_run]
     repeat' (first | rfl | ifsplit1 | split))

maybe theorem tie_itermut_next_back (it : Iter) (s : Sys) : Gen.IterMut_next_back it s = (.ok (Iter.nextBack it), s) := by
  first
  | rfl
  | sameBody [Gen.IterMut_next_back, Gen.Iter_next_back] (tie_iter_next_back it s)
  | (simp only [Gen.IterMut_next_back, Iter.nextBack, View.takeFirst, View.takeLast, ↓pure_run, ↓bind_run, ↓ite_run]
     repeat' (first | rfl | ifsplit1 | split))

maybe theorem tie_itermut_new (s : Sys) (h : Inv s.buf) : Gen.IterMut_new s = Iter.new s := by
  first
  | (callEval [Gen.IterMut_new, Iter.new, tie_as_mut_slices s h]; done)
  | tieFrag h [Gen.IterMut_new, Iter.new]

maybe theorem tie_itermut_over_range (sb eb : Bound) (s : Sys) (h : Inv s.buf) :
    Gen.IterMut_over_range sb eb s = Iter.overRange sb eb s := by
  first
  | rfl
  | overRangeTie sb eb s [Gen.IterMut_over_range, tie_itermut_empty, tie_itermut_new s h, tie_itermut_advance_front_by,
      tie_itermut_advance_back_by]

end CircBuf

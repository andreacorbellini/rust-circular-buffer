import CircBuf.Lemmas.TieTac
import CircBuf.Lemmas.Truncate
set_option linter.unusedSimpArgs false
set_option linter.unusedVariables false
/-! Tie theorems (truncate group) — see `CircBuf/Lemmas/CoreTie.lean` for what they are. -/
namespace CircBuf

/-- a run of `drop_range` on a non-empty range that does not end in a defect passed all its assertions -/
theorem dropRange_nd_facts (rs re : Nat) (s : Sys) (hlt : ¬ re ≤ rs) (hnd : NonDefect (dropRange rs re s).1) :
    s.buf.start < s.buf.cap ∧ s.buf.size ≤ s.buf.cap ∧ rs < s.buf.size ∧ re ≤ s.buf.size ∧
      (rs = 0 ∨ re = s.buf.size) := by
  simp only [dropRange, ↓getBuf_bind, ↓dassert_bind, ↓ite_run, hlt, if_false, decide_eq_true_eq] at hnd
  by_cases h1 : s.buf.start < s.buf.cap
  · by_cases h2 : s.buf.size ≤ s.buf.cap
    · by_cases h3 : rs < s.buf.size
      · by_cases h4 : re ≤ s.buf.size
        · by_cases h6 : rs = 0 ∨ re = s.buf.size
          · exact ⟨h1, h2, h3, h4, h6⟩
          · have h5 : rs < re := by omega
            simp [h1, h2, h3, h4, h5, h6, NonDefect, Panic.defect] at hnd
        · simp [h1, h2, h3, h4, NonDefect, Panic.defect] at hnd
      · simp [h1, h2, h3, NonDefect, Panic.defect] at hnd
    · simp [h1, h2, NonDefect, Panic.defect] at hnd
  · simp [h1, NonDefect, Panic.defect] at hnd

theorem dip_range'_zero (a n : Nat) (h : n = 0) : dropInPlace (List.range' a n) = pure () := by
  subst h; rfl

maybe /-- `drop_range`: the facts its assertions establish (from the non-defect run of the model) are put into the
context, both bodies are evaluated under them (no assertion, no index computation can fail there), the
conditions are split and the two pairs of segments compared up to arithmetic — however they are computed -/
theorem tie_drop_range (rs re : Nat) (s : Sys) (h : Inv s.buf) (hnd : NonDefect (dropRange rs re s).1) :
    Gen.drop_range (rs, re) s = dropRange rs re s := by
  first
  | rfl
  | (
     have hW := h.cap_lt
     by_cases hlt : re ≤ rs
     · have hm : dropRange rs re s = (.ok (), s) := by simp only [dropRange, hlt, if_true, ite_true, ↓pure_run]
       rw [hm]
       simp only [Gen.drop_range, ↓getBuf_bind, ↓getBuf_run, ↓ite_run, ↓ite_bind, ↓bind_assoc_run, ↓pure_run, ↓pure_bind_run, ↓bind_run,
         decide_eq_true_eq]
       repeat' (first | rfl | ifsplit1)
     · obtain ⟨f1, f2, f3, f4, f6⟩ := dropRange_nd_facts rs re s hlt hnd
       have f5 : rs < re := by omega
       have hcpos : 0 < s.buf.cap := by omega
       simp only [Gen.drop_range, dropRange, dropSegments, ↓getBuf_bind, ↓getBuf_run, ↓setBuf_bind, ↓setBuf_run,
         ↓ite_run, ↓ite_bind, ↓bind_assoc_run, ↓pure_run, ↓pure_bind_run, ↓bind_run, ↓liftE_bind, ↓liftE_run, ↓dassert_bind, ↓dassert_run,
         decide_eq_true_eq, amod, smod, setStart, setSize, checkRange, View.sub,
         View.splitAt, View.all, View.empty, View.slots, ↓liftE_ite, ↓liftE_ok_eq, ↓liftE_pure_eq, ↓liftE_error_eq, ↓liftE_bind_dist, ↓raise_bind, ↓raise_run, uadd, usub,
         f1, f2, f3, f4, f5, f6, hlt, if_true, if_false, ite_true, ite_false, not_true_eq_false, not_false_eq_true]
       -- with the two wrap conditions decided, `add_mod` yields plain sums and every condition of either body is
       -- a linear fact (left symbolic, the two slots are `if`-terms and every comparison of them has to be split)
       rcases Nat.lt_or_ge (s.buf.start + rs) s.buf.cap with c1 | c1 <;>
       rcases Nat.lt_or_ge (s.buf.start + re) s.buf.cap with c2 | c2 <;> (try (exfalso; omega))
       all_goals try simp (config := { singlePass := true }) (disch := omega) only [↓addMod_lt, ↓addMod_ge, ↓addMod_ite, ↓subMod_ite, ↓if_pos, ↓if_neg]
       all_goals repeat' (first
         | (with_reducible rfl)
         | (simp (disch := omega) only [↓getBuf_bind, ↓getBuf_run, ↓setBuf_bind, ↓setBuf_run, ↓ite_run, ↓ite_bind, ↓bind_assoc_run,
              ↓pure_run, ↓pure_bind_run, ↓bind_run, ↓liftE_bind, ↓liftE_run, ↓raise_bind, ↓raise_run, ↓addMod_lt, ↓addMod_ge, ↓addMod_ite, ↓if_pos, ↓if_neg])
         | ifsplit1
         | esplit1
         | split)
       all_goals (try (simp (disch := omega) only [Nat.zero_add, Nat.add_zero, Nat.sub_zero, range'_zero_len, dropInPlace_nil,
         dip_range'_zero]))
       all_goals ((repeat' (first | rfl | omega | congr 1)); done))

/-! `truncate_back`, `truncate_front`: the model is brought into the form the state calls for (`truncateBack_done`:
nothing to do; `truncateBack_run`: one `dropRange`, then the check of the new size) and the translated body is
evaluated against it — `drop_range` by its tie — wherever the body puts its tests and however it names the range. -/

maybe theorem tie_truncate_back (n : Nat) (s : Sys) (h : Inv s.buf) (hnd : NonDefect (truncateBack n s).1) :
    Gen.truncate_back n s = truncateBack n s := by
  first
  | rfl
  | (have hsz := h.size_le
     by_cases hz : s.buf.cap = 0 ∨ n ≥ s.buf.size
     · rw [truncateBack_done n s hz]
       truncEval [Gen.truncate_back]
     · rw [truncateBack_run n s hz] at hnd ⊢
       truncEval [Gen.truncate_back, tie_drop_range n s.buf.size s h (nd_of_bind _ _ s hnd)])

maybe theorem tie_truncate_front (n : Nat) (s : Sys) (h : Inv s.buf) (hnd : NonDefect (truncateFront n s).1) :
    Gen.truncate_front n s = truncateFront n s := by
  first
  | rfl
  | (have hsz := h.size_le
     by_cases hz : s.buf.cap = 0 ∨ n ≥ s.buf.size
     · rw [truncateFront_done n s hz]
       truncEval [Gen.truncate_front]
     · rw [truncateFront_run n s hz] at hnd ⊢
       truncEval [Gen.truncate_front, tie_drop_range 0 (s.buf.size - n) s h (nd_of_bind _ _ s hnd)])

maybe theorem tie_clear (s : Sys) (h : Inv s.buf) (hnd : NonDefect (clear s).1) : Gen.clear s = clear s := by
  first
  | rfl
  | (-- a body that calls `truncate_back(0)`, at once or behind a guard of its own: where the guard returns, so does the model
     have hsz := h.size_le
     simp only [Gen.clear, clear, bind_pure_unit_run, ↓getBuf_bind, ↓ite_run, ↓pure_run, tie_truncate_back 0 s h hnd]
     repeat' ifsplit1
     all_goals exact (truncateBack_done 0 s (by omega)).symm)
  | (-- `truncate_back(0)` written out: as for `truncate_back`
     have hsz := h.size_le
     change NonDefect (truncateBack 0 s).1 at hnd
     change _ = truncateBack 0 s
     by_cases hz : s.buf.cap = 0 ∨ 0 ≥ s.buf.size
     · rw [truncateBack_done 0 s hz]
       truncEval [Gen.clear]
     · rw [truncateBack_run 0 s hz] at hnd ⊢
       truncEval [Gen.clear, tie_drop_range 0 s.buf.size s h (nd_of_bind _ _ s hnd)])

end CircBuf

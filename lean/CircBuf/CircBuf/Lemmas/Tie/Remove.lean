import CircBuf.Lemmas.TieTac
import CircBuf.Lemmas.Remove
set_option linter.unusedSimpArgs false
set_option linter.unusedVariables false
/-! Tie theorems (remove / make_contiguous) — see `CircBuf/Lemmas/CoreTie.lean` for what they are. -/
namespace CircBuf

/-! The last element (`i = size - 1`), two ways.  (b) pushes that index through whatever the body does in
general — fine for the pinned body, too large a case analysis for a body that handles this case on its own
and then goes on with the facts `i ≠ size - 1`.  (a) compares with `popBack` (`remove_last_eq_popBack`) —
fine for such a body.  A time-out is not an error `first` can catch, hence two declarations: (a) is attempted
only when (b) does not exist. -/
maybe theorem tie_remove_last_b (s : Sys) (h : Inv s.buf) (hpos : 1 ≤ s.buf.size)
    (hnd : NonDefect (remove (s.buf.size - 1) s).1) :
    Gen.remove (s.buf.size - 1) s = remove (s.buf.size - 1) s := by
  first
  | rfl
  | tieNd h hnd [Gen.remove, remove]

maybe theorem tie_remove_last (s : Sys) (h : Inv s.buf) (hpos : 1 ≤ s.buf.size)
    (hnd : NonDefect (remove (s.buf.size - 1) s).1) :
    Gen.remove (s.buf.size - 1) s = remove (s.buf.size - 1) s := by
  first
  | exact tie_remove_last_b s h hpos hnd
  | (rw [remove_last_eq_popBack s h hpos] at hnd ⊢
     tieNd h hnd [Gen.remove, popBack])

maybe theorem tie_remove (i : Nat) (s : Sys) (h : Inv s.buf)
    (hnd : NonDefect (remove i s).1) :
    Gen.remove i s = remove i s := by
  first
  | rfl
  | (by_cases hl : i + 1 = s.buf.size
     · have hl' : i = s.buf.size - 1 := by omega
       have hpos : 1 ≤ s.buf.size := by omega
       subst hl'
       exact tie_remove_last s h hpos hnd
     · tieNd h hnd [Gen.remove, remove])
maybe theorem tie_make_contiguous (s : Sys) (h : Inv s.buf)
    (hnd : NonDefect (makeContiguous s).1) :
    Gen.make_contiguous s = makeContiguous s := by
  tieNd h hnd [Gen.make_contiguous, makeContiguous]

end CircBuf

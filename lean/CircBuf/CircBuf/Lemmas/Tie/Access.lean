import CircBuf.Lemmas.TieTac
import CircBuf.Lemmas.NonDefect
set_option linter.unusedSimpArgs false
set_option linter.unusedVariables false
/-! Tie theorems (element access; the result is the slot the reference points at) — see
`CircBuf/Lemmas/CoreTie.lean` for what they are. -/
namespace CircBuf

maybe theorem tie_front (s : Sys) (h : Inv s.buf)
    (hnd : NonDefect (front? s).1) :
    Gen.front s = front? s := by
  tieNd h hnd [Gen.front, front?]
maybe theorem tie_front_mut (s : Sys) (h : Inv s.buf)
    (hnd : NonDefect (front? s).1) :
    Gen.front_mut s = front? s := by
  tieNd h hnd [Gen.front_mut, front?]
maybe theorem tie_back (s : Sys) (h : Inv s.buf)
    (hnd : NonDefect (back? s).1) :
    Gen.back s = back? s := by
  tieNd h hnd [Gen.back, back?]
maybe theorem tie_back_mut (s : Sys) (h : Inv s.buf)
    (hnd : NonDefect (back? s).1) :
    Gen.back_mut s = back? s := by
  tieNd h hnd [Gen.back_mut, back?]
maybe theorem tie_get (i : Nat) (s : Sys) (h : Inv s.buf)
    (hnd : NonDefect (get? i s).1) :
    Gen.get i s = get? i s := by
  tieNd h hnd [Gen.get, get?]
maybe theorem tie_get_mut (i : Nat) (s : Sys) (h : Inv s.buf)
    (hnd : NonDefect (get? i s).1) :
    Gen.get_mut i s = get? i s := by
  tieNd h hnd [Gen.get_mut, get?]
maybe theorem tie_nth_front (i : Nat) (s : Sys) (h : Inv s.buf)
    (hnd : NonDefect (nthFront? i s).1) :
    Gen.nth_front i s = nthFront? i s := by
  first
  | (have hsz := h.size_le
     have hW := h.cap_lt
     have hg : ∀ j, Gen.get j s = get? j s := fun j => tie_get j s h (nd_get j s h)
     callEval [Gen.nth_front, nthFront?, checkedSub, hg]
     done)
  | (tieNd h hnd [Gen.nth_front, nthFront?]; done)
maybe theorem tie_nth_back (i : Nat) (s : Sys) (h : Inv s.buf)
    (hnd : NonDefect (nthBack? i s).1) :
    Gen.nth_back i s = nthBack? i s := by
  first
  | (have hsz := h.size_le
     have hW := h.cap_lt
     have hg : ∀ j, Gen.get j s = get? j s := fun j => tie_get j s h (nd_get j s h)
     callEval [Gen.nth_back, nthBack?, checkedSub, hg]
     done)
  | (tieNd h hnd [Gen.nth_back, nthBack?]; done)

end CircBuf

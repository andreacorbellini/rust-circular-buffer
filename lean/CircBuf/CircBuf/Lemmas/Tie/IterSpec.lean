import CircBuf.Lemmas.Tie.IterTie
import CircBuf.Lemmas.Iter
set_option linter.unusedSimpArgs false
set_option linter.unusedVariables false
/-!
  A second route from the translated iterator layer (`Gen.Iter_*`, `Gen.IterMut_*`) to the theorems of C08,
  for bodies that compute the same *selection* as the pinned source but not the same `Iter` value.

  The ties of `IterTie.lean` are equalities of functions `Iter → … → M Iter`, and an `Iter` is two views
  `(offset, length)`.  An *empty* view has no elements, whatever its offset — but two bodies may leave an
  exhausted half at different offsets (the pinned `advance_front_by` stores the literal `&[]`; a body that
  returns early for `count == 0` keeps the empty sub-slice it had).  No operation of the crate observes
  the address of an empty slice, and no property speaks about it: what C08 states is which slots an
  iterator still has to produce (`Iter.remaining`).  The theorems below therefore state what the
  *callers* of the two stepping helpers need (`AdvFrontOK`, `AdvBackOK` of `Lemmas/Iter.lean`: the helper succeeds,
  leaves the state alone and drops / takes the right number of remaining slots) and prove it either from the tie (when that one checks) or
  directly from the translated body.  `Props/Src/C08.lean` uses them when `tie_iter_over_range` is missing.
-/
namespace CircBuf

/-- linear arithmetic under `∧` / `∨` in the goal (projections of structure literals reduced first) -/
syntax "disjOmega" : tactic
macro_rules
  | `(tactic| disjOmega) =>
  `(tactic| first
     | omega
     | (simp only []; done)
     | (simp only []; omega)
     | (refine ⟨?_, ?_⟩ <;> disjOmega)
     | (left; disjOmega)
     | (right; disjOmega))

/-- evaluate a translated stepping helper on an arbitrary iterator and state, case by case; at each
leaf the remaining slots are compared up to the offsets of empty views -/
syntax "advEval" ident "[" Lean.Parser.Tactic.simpLemma,* "]" : tactic
macro_rules
  | `(tactic| advEval $lem [$ls,*]) =>
  `(tactic| (
     intro it count s hc
     obtain ⟨⟨ro, rl⟩, ⟨lo, ll⟩⟩ := it
     simp only [Iter.remaining, View.slots, List.length_append, List.length_range'] at hc
     simp only [$ls,*, View.takeTo, View.takeFrom, View.empty, View.sub, View.splitAt, ↓bind_assoc_run, ↓dassert_bind,
       ↓pure_bind_run, ↓raise_bind, ↓ite_bind, ↓ite_run, ↓dassert_run, ↓pure_run, ↓raise_run, ↓liftE_bind, ↓liftE_run,
       uadd, usub, umul, checkedSub, ↓liftE_ite, ↓liftE_ok_eq, ↓liftE_pure_eq, ↓liftE_error_eq, ↓liftE_bind_dist,
       decide_eq_true_eq, Nat.not_lt, Nat.not_le, gt_iff_lt, ge_iff_le]
     repeat' (first | (exfalso; omega) | ifsplit1 | split)
     all_goals (
       refine ⟨_, rfl, ?_⟩
       simp only [Iter.remaining, List.length_append, View.length_slots]
       apply $lem ⟨ro, rl⟩ ⟨lo, ll⟩ _ _ count <;> disjOmega)))

maybe theorem spec_iter_advance_front_by : AdvFrontOK Gen.Iter_advance_front_by := by
  first
  | (intro it count s hc; rw [tie_iter_advance_front_by]; exact Iter.advanceFrontBy_spec it count s hc)
  | advEval drop_views [Gen.Iter_advance_front_by]

maybe theorem spec_iter_advance_back_by : AdvBackOK Gen.Iter_advance_back_by := by
  first
  | (intro it count s hc; rw [tie_iter_advance_back_by]; exact Iter.advanceBackBy_spec it count s hc)
  | advEval take_views [Gen.Iter_advance_back_by]

maybe theorem spec_itermut_advance_front_by : AdvFrontOK Gen.IterMut_advance_front_by := by
  first
  | (intro it count s hc; rw [tie_itermut_advance_front_by]; exact Iter.advanceFrontBy_spec it count s hc)
  | advEval drop_views [Gen.IterMut_advance_front_by]

maybe theorem spec_itermut_advance_back_by : AdvBackOK Gen.IterMut_advance_back_by := by
  first
  | (intro it count s hc; rw [tie_itermut_advance_back_by]; exact Iter.advanceBackBy_spec it count s hc)
  | advEval take_views [Gen.IterMut_advance_back_by]

/-! the direct proofs, checked on the pinned source too (so that the route itself is exercised on every
run, not only when a tie is missing) -/
maybe theorem spec_iter_advance_front_by_direct : AdvFrontOK Gen.Iter_advance_front_by := by
  first
  | (exact fun it count s hc => rfl ▸ Iter.advanceFrontBy_spec it count s hc)   -- (fallback: `Gen.f := model f`)
  | advEval drop_views [Gen.Iter_advance_front_by]

maybe theorem spec_iter_advance_back_by_direct : AdvBackOK Gen.Iter_advance_back_by := by
  first
  | (exact fun it count s hc => rfl ▸ Iter.advanceBackBy_spec it count s hc)
  | advEval take_views [Gen.Iter_advance_back_by]

/-- `overRange_of_steps` applied to a translated `over_range` (`f`), which is evaluated with the results of the steps: `tnew`, `tempty` are
the ties of `new` and `empty`, `sfront`, `sback` the specifications of the translated stepping helpers; the hypotheses
about the range are taken from the context -/
syntax "overRangeEval" ident ident ident ident ident : tactic
macro_rules
  | `(tactic| overRangeEval $f $tnew $sfront $sback $tempty) =>
  `(tactic| (
     refine overRange_of_steps (F := $f _ _) ($tnew _ ‹_›) $sfront $sback ‹_› ‹_› ‹_› ‹_› ‹_›
       fun it0 it1 it2 htr hn h1 h2 hu => ?_
     rw [← tie_translate_range_bounds] at htr
     split <;>
       simp (disch := omega) only [$f:ident, $tempty:ident, htr, hn, h1, h2, hu, ↓bind_run, ↓bind_assoc_run,
         ↓pure_bind_run, ↓getBuf_bind, ↓getBuf_run, ↓liftE_bind, ↓liftE_run, ↓ite_bind, ↓ite_run, ↓pure_run, ↓if_pos,
         ↓if_neg]))

end CircBuf

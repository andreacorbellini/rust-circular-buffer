import CircBuf.Lemmas.Views
/-! Borrowing iterators (`Iter`, `IterMut`): an iterator is a refinement of the list of slots it has
still to produce (`remaining`): `next` = head/tail, `next_back` = last/dropLast, `len` = length;
`over_range(a..b)` selects exactly the slots of logical positions `a..b` (`rangeSlots`) — proved for any body that
takes the same steps (`overRange_of_steps`), the model's being one; before that, the bounds of a range (`Bound.*`) and
`translate_range_bounds`. -/
namespace CircBuf

theorem range'_drop (s n k : Nat) : (List.range' s n).drop k = List.range' (s + k) (n - k) := by
  rw [List.drop_range', Nat.mul_one]

theorem range'_take (s n k : Nat) : (List.range' s n).take k = List.range' s (min k n) := by
  apply List.ext_getElem
  · simp
  · intro i h1 h2
    simp only [List.getElem_take, List.getElem_range']

/-- two ranges, the first `c` slots dropped: stated on offsets and lengths, with the offset of an empty
range left free -/
theorem drop_views (r l r' l' : View) (c : Nat)
    (h : (c < r.len ∧ r'.len = r.len - c ∧ r'.off = r.off + c ∧ l'.len = l.len ∧ (l.len = 0 ∨ l'.off = l.off)) ∨
         (r.len ≤ c ∧ r'.len = 0 ∧ l'.len = l.len - (c - r.len) ∧ (l'.len = 0 ∨ l'.off = l.off + (c - r.len)))) :
    r'.slots ++ l'.slots = (r.slots ++ l.slots).drop c := by
  obtain ⟨ro, rl⟩ := r; obtain ⟨lo, ll⟩ := l; obtain ⟨ro', rl'⟩ := r'; obtain ⟨lo', ll'⟩ := l'
  simp only [View.slots] at *
  rw [List.drop_append, List.length_range', range'_drop, range'_drop]
  rcases h with ⟨h1, h2, h3, h4, h5⟩ | ⟨h1, h2, h3, h5⟩
  · have e : c - rl = 0 := by omega
    rw [e, h2, h3, h4, Nat.add_zero, Nat.sub_zero]
    rcases h5 with h5 | h5
    · rw [h5]; simp
    · rw [h5]
  · have e : rl - c = 0 := by omega
    rw [e, h2, h3]
    rcases h5 with h5 | h5
    · have e3 : ll - (c - rl) = 0 := by omega
      rw [e3]; simp
    · rw [h5]; simp

/-- two ranges, the last `c` slots dropped -/
theorem take_views (r l r' l' : View) (c : Nat) (hc : c ≤ r.len + l.len)
    (h : (c < l.len ∧ l'.len = l.len - c ∧ l'.off = l.off ∧ r'.len = r.len ∧ (r.len = 0 ∨ r'.off = r.off)) ∨
         (l.len ≤ c ∧ l'.len = 0 ∧ r'.len = r.len - (c - l.len) ∧ (r'.len = 0 ∨ r'.off = r.off))) :
    r'.slots ++ l'.slots = (r.slots ++ l.slots).take (r.len + l.len - c) := by
  obtain ⟨ro, rl⟩ := r; obtain ⟨lo, ll⟩ := l; obtain ⟨ro', rl'⟩ := r'; obtain ⟨lo', ll'⟩ := l'
  simp only [View.slots] at *
  rw [List.take_append, List.length_range', range'_take, range'_take]
  rcases h with ⟨h1, h2, h3, h4, h5⟩ | ⟨h1, h2, h3, h5⟩
  · have e1 : min (rl + ll - c) rl = rl' := by omega
    have e2 : min (rl + ll - c - rl) ll = ll' := by omega
    rw [e1, e2, h3]
    rcases h5 with h5 | h5
    · have : rl' = 0 := by omega
      rw [this]; simp
    · rw [h5]
  · have e1 : min (rl + ll - c) rl = rl' := by omega
    have e2 : min (rl + ll - c - rl) ll = 0 := by omega
    rw [e1, e2, h2]
    rcases h5 with h5 | h5
    · rw [h5]; simp
    · rw [h5]; simp

theorem Iter.next_spec (it : Iter) :
    (it.next).1 = it.remaining.head? ∧ (it.next).2.remaining = it.remaining.tail := by
  obtain ⟨⟨ro, rl⟩, ⟨lo, ll⟩⟩ := it
  cases rl with
  | succ n => simp [Iter.next, Iter.remaining, View.slots, List.range'_succ]
  | zero =>
    cases ll with
    | succ n => simp [Iter.next, Iter.remaining, View.slots, List.range'_succ]
    | zero => simp [Iter.next, Iter.remaining, View.slots]

theorem Iter.nextBack_spec (it : Iter) :
    (it.nextBack).1 = it.remaining.getLast? ∧ (it.nextBack).2.remaining = it.remaining.dropLast := by
  obtain ⟨⟨ro, rl⟩, ⟨lo, ll⟩⟩ := it
  cases ll with
  | succ n => simp [Iter.nextBack, Iter.remaining, View.slots, List.range'_concat, ← List.append_assoc]
  | zero =>
    cases rl with
    | succ n => simp [Iter.nextBack, Iter.remaining, View.slots, List.range'_concat]
    | zero => simp [Iter.nextBack, Iter.remaining, View.slots]

theorem Iter.len_spec (it : Iter) (s : Sys) (h : it.right.len + it.left.len < W) :
    it.len s = (.ok it.remaining.length, s) := by
  unfold Iter.len Iter.remaining View.slots
  mrun []
  simp

theorem Iter.advanceFrontBy_spec (it : Iter) (count : Nat) (s : Sys)
    (hc : count ≤ it.remaining.length) :
    ∃ it', it.advanceFrontBy count s = (.ok it', s) ∧ it'.remaining = it.remaining.drop count := by
  unfold Iter.advanceFrontBy
  by_cases h1 : it.right.len > count
  · exact ⟨{ it with right := ⟨it.right.off + count, it.right.len - count⟩ }, by rw [if_pos h1]; rfl,
      drop_views _ _ _ _ count (.inl ⟨h1, rfl, rfl, rfl, .inr rfl⟩)⟩
  · have h1 := Nat.le_of_not_lt h1
    rw [Iter.remaining, List.length_append, View.length_slots, View.length_slots] at hc
    have hle : count - it.right.len ≤ it.left.len := Nat.sub_le_of_le_add (Nat.add_comm .. ▸ hc)
    exact ⟨⟨View.empty, ⟨it.left.off + (count - it.right.len), it.left.len - (count - it.right.len)⟩⟩,
      by mrun [h1, hle], drop_views _ _ _ _ count (.inr ⟨h1, rfl, rfl, .inr rfl⟩)⟩

theorem Iter.advanceBackBy_spec (it : Iter) (count : Nat) (s : Sys)
    (hc : count ≤ it.remaining.length) :
    ∃ it', it.advanceBackBy count s = (.ok it', s) ∧
      it'.remaining = it.remaining.take (it.remaining.length - count) := by
  unfold Iter.remaining at hc ⊢
  rw [List.length_append, View.length_slots, View.length_slots] at hc ⊢
  unfold Iter.advanceBackBy
  by_cases h1 : it.left.len > count
  · exact ⟨{ it with left := ⟨it.left.off, it.left.len - count⟩ }, by mrun [h1],
      take_views it.right it.left _ _ count hc (.inl ⟨h1, rfl, rfl, rfl, .inr rfl⟩)⟩
  · have h1 := Nat.le_of_not_lt h1
    exact ⟨⟨⟨it.right.off, it.right.len - (count - it.left.len)⟩, View.empty⟩, by mrun [h1],
      take_views it.right it.left _ _ count hc (.inr ⟨h1, rfl, rfl, .inr rfl⟩)⟩

/-- unbounded-natural reading of a start / end bound -/
def Bound.startNat : Bound → Nat
  | .incl x => x
  | .excl x => x + 1
  | .unb => 0

def Bound.endNat (len : Nat) : Bound → Nat
  | .incl x => x + 1
  | .excl x => x
  | .unb => len

/-- the number a bound carries; `sb.val < W` says that it is a `usize` -/
def Bound.val : Bound → Nat
  | .incl x => x
  | .excl x => x
  | .unb => 0

theorem Bound.startE_eq (sb : Bound) (h : sb.val < W) :
    sb.startE = if sb.startNat < W then .ok sb.startNat else .error (.doc "range_start_overflow") := by
  cases sb with
  | incl x => simp only [Bound.val] at h; simp [Bound.startE, Bound.startNat, h]
  | excl x =>
    simp only [Bound.startE, Bound.startNat, checkedAdd]
    by_cases hx : x + 1 < W <;> simp [hx]
  | unb => simp [Bound.startE, Bound.startNat, W_pos]

theorem Bound.endE_eq (eb : Bound) (len : Nat) (h : eb.val < W) (hl : len < W) :
    eb.endE len = if eb.endNat len < W then .ok (eb.endNat len)
      else .error (.doc "range_end_overflow") := by
  cases eb with
  | incl x =>
    simp only [Bound.endE, Bound.endNat, checkedAdd]
    by_cases hx : x + 1 < W <;> simp [hx]
  | excl x => simp only [Bound.val] at h; simp [Bound.endE, Bound.endNat, h]
  | unb => simp [Bound.endE, Bound.endNat, hl]

/-- `translate_range_bounds` succeeds on valid ranges and returns them (the converse is `C11_range_panics`) -/
theorem translateRange_ok (sb eb : Bound) (s : Sys) (hsb : sb.val < W) (heb : eb.val < W)
    (he : eb.endNat s.buf.size ≤ s.buf.size) (hs : sb.startNat ≤ eb.endNat s.buf.size)
    (hW : s.buf.size < W) :
    translateRange sb eb s = (.ok (sb.startNat, eb.endNat s.buf.size), s) := by
  mrun [translateRange, Bound.startE_eq sb hsb, Bound.endE_eq eb _ heb hW]

/-- the two outcomes of `translate_range_bounds`, as its callers meet them: it only reads, and a range it
accepts lies inside the buffer -/
theorem translateRange_cases (sb eb : Bound) (s : Sys) :
    (∃ p, translateRange sb eb s = (.error p, s)) ∨
      ∃ st en, translateRange sb eb s = (.ok (st, en), s) ∧ en ≤ s.buf.size ∧ st ≤ en := by
  simp only [translateRange, ↓bind_run, ↓getBuf_run, ↓liftE_run, ↓ite_run, ↓pure_run, ↓raise_run]
  cases sb.startE with
  | error p => exact .inl ⟨p, rfl⟩
  | ok a =>
    cases eb.endE s.buf.size with
    | error p => exact .inl ⟨p, rfl⟩
    | ok b =>
      by_cases h1 : b ≤ s.buf.size
      · by_cases h2 : a ≤ b
        · exact .inr ⟨a, b, by simp only [h1, h2, if_true], h1, h2⟩
        · exact .inl ⟨_, by simp only [h1, h2, if_true, if_false]; rfl⟩
      · exact .inl ⟨_, by simp only [h1, if_false]; rfl⟩

theorem translateRange_state (sb eb : Bound) (s : Sys) : (translateRange sb eb s).2 = s := by
  rcases translateRange_cases sb eb s with ⟨p, e⟩ | ⟨st, en, e, _⟩ <;> rw [e]

theorem translateRange_inside (sb eb : Bound) (s s1 : Sys) (st en : Nat)
    (htr : translateRange sb eb s = (.ok (st, en), s1)) : en ≤ s.buf.size ∧ st ≤ en := by
  rcases translateRange_cases sb eb s with ⟨p, e⟩ | ⟨st', en', e, hb⟩ <;> rw [e] at htr
  · cases htr
  · cases htr; exact hb

theorem Iter.new_spec (s : Sys) (h : Inv s.buf) :
    ∃ it, Iter.new s = (.ok it, s) ∧
      it.remaining = windowSlots s.buf.start s.buf.cap s.buf.size := by
  obtain ⟨f, k, h1, h2, _⟩ := asSlicesOf_spec s.buf h
  refine ⟨⟨f, k⟩, ?_, h2⟩
  simp only [Iter.new, asSlices, bind_run, getBuf_run, h1, liftE_ok, pure_run]

/-- the slots of logical positions `a .. b` -/
def rangeSlots (start cap a b : Nat) : List Nat := (List.range' a (b - a)).map (phys start cap)

theorem windowSlots_slice (start cap size a b : Nat) (hb : b ≤ size) :
    ((windowSlots start cap size).drop a).take (b - a) = rangeSlots start cap a b := by
  rw [windowSlots, rangeSlots, List.range_eq_range', ← List.map_drop, ← List.map_take, range'_drop,
    List.take_range'_of_length_ge (Nat.sub_le_sub_right hb a), Nat.zero_add]

/-- what the callers of `advance_front_by` rely on -/
def AdvFrontOK (f : Iter → Nat → M Iter) : Prop :=
  ∀ (it : Iter) (count : Nat) (s : Sys), count ≤ it.remaining.length →
    ∃ it', f it count s = (.ok it', s) ∧ it'.remaining = it.remaining.drop count

/-- what the callers of `advance_back_by` rely on -/
def AdvBackOK (f : Iter → Nat → M Iter) : Prop :=
  ∀ (it : Iter) (count : Nat) (s : Sys), count ≤ it.remaining.length →
    ∃ it', f it count s = (.ok it', s) ∧
      it'.remaining = it.remaining.take (it.remaining.length - count)

theorem AdvFrontOK.model : AdvFrontOK Iter.advanceFrontBy := Iter.advanceFrontBy_spec
theorem AdvBackOK.model : AdvBackOK Iter.advanceBackBy := Iter.advanceBackBy_spec

/-- `over_range` from the specifications of its callees.  On a valid range each of the steps a body `F` may take —
translating the bounds, building the whole-buffer iterator `it0`, advancing its front (`it1`) and its back (`it2`),
computing `len - end` — succeeds with a known result and leaves the state alone; a body that, given these, returns
`it2`, or the empty iterator for an empty range, selects the slots of the range.  In which order it takes the steps,
and which of them it skips for an empty range, is left to `hF`. -/
theorem overRange_of_steps {F new : M Iter} {front back : Iter → Nat → M Iter} {sb eb : Bound} {s : Sys}
    (hnew : new s = Iter.new s) (hf : AdvFrontOK front) (hb : AdvBackOK back) (h : Inv s.buf) (hsb : sb.val < W)
    (heb : eb.val < W) (he : eb.endNat s.buf.size ≤ s.buf.size) (hs : sb.startNat ≤ eb.endNat s.buf.size)
    (hF : ∀ it0 it1 it2, translateRange sb eb s = (.ok (sb.startNat, eb.endNat s.buf.size), s) →
      new s = (.ok it0, s) → front it0 sb.startNat s = (.ok it1, s) →
      back it1 (s.buf.size - eb.endNat s.buf.size) s = (.ok it2, s) →
      usub s.buf.size (eb.endNat s.buf.size) = .ok (s.buf.size - eb.endNat s.buf.size) →
      F s = (.ok (if sb.startNat < eb.endNat s.buf.size then it2 else Iter.empty), s)) :
    ∃ it, F s = (.ok it, s) ∧
      it.remaining = rangeSlots s.buf.start s.buf.cap sb.startNat (eb.endNat s.buf.size) := by
  have hsub : s.buf.size - sb.startNat - (s.buf.size - eb.endNat s.buf.size) = eb.endNat s.buf.size - sb.startNat := by
    omega
  obtain ⟨it0, hn, hr0⟩ := Iter.new_spec s h
  have hl0 : it0.remaining.length = s.buf.size := by rw [hr0, windowSlots_length]
  obtain ⟨it1, h1, hr1⟩ := hf it0 sb.startNat s (hl0 ▸ Nat.le_trans hs he)
  have hl1 : it1.remaining.length = s.buf.size - sb.startNat := by rw [hr1, List.length_drop, hl0]
  obtain ⟨it2, h2, hr2⟩ := hb it1 (s.buf.size - eb.endNat s.buf.size) s (hl1 ▸ Nat.sub_le_sub_left hs _)
  refine ⟨_, hF it0 it1 it2 (translateRange_ok sb eb s hsb heb he hs (Nat.lt_of_le_of_lt h.size_le h.cap_lt))
    (hnew ▸ hn) h1 h2 (usub_ok _ _ he), ?_⟩
  by_cases hlt : sb.startNat < eb.endNat s.buf.size
  · rw [if_pos hlt, hr2, hl1, hr1, hr0, hsub, windowSlots_slice _ _ _ _ _ he]
  · rw [if_neg hlt, Nat.le_antisymm hs (Nat.le_of_not_lt hlt)]
    simp [Iter.empty, Iter.remaining, View.empty, View.slots, rangeSlots]

/-- `range(a..b)` / `range_mut(a..b)` in any `RangeBounds` spelling selects exactly the slots of
the logical positions `a..b`, in order -/
theorem Iter.overRange_spec (sb eb : Bound) (s : Sys) (h : Inv s.buf) (hsb : sb.val < W)
    (heb : eb.val < W) (he : eb.endNat s.buf.size ≤ s.buf.size)
    (hs : sb.startNat ≤ eb.endNat s.buf.size) :
    ∃ it, Iter.overRange sb eb s = (.ok it, s) ∧
      it.remaining = rangeSlots s.buf.start s.buf.cap sb.startNat (eb.endNat s.buf.size) := by
  refine overRange_of_steps (F := Iter.overRange sb eb) (new := Iter.new) rfl AdvFrontOK.model AdvBackOK.model
    h hsb heb he hs fun it0 it1 it2 htr hn h1 h2 hu => ?_
  split <;> mrun [Iter.overRange, htr, hn, h1, h2, hu]

end CircBuf

import CircBuf.Lemmas.History
import CircBuf.Lemmas.Fill
import CircBuf.Lemmas.ExtendSlice
/-!
  Histories over the **whole mutator API**: besides the fourteen core operations of `History.lean`,
  `extend` (an iterator of `m` new elements), `extend_from_slice`, `fill`, `fill_spare`, `fill_with`,
  `fill_spare_with` and `clone_from` — the operations that call user code (`Clone`, a closure, an
  iterator).  The abstract state is the sequence together with the counter from which new element
  identities are drawn.  Panic-free user code (all fault counters zero), identity-tracked elements.
-/
namespace CircBuf

inductive OpX where
  | core (op : Op)
  | extend (m : Nat)
  | extendFromSlice (l : List Elem)
  | fill (v : Elem)
  | fillSpare (v : Elem)
  | fillWith
  | fillSpareWith
  | cloneFrom (l : List Elem)

/-- one step of a history on the model -/
def runOpX : OpX → M Out
  | .core op => runOp op
  | .extend m => do extendIter m; pure .unit
  | .extendFromSlice l => do extendFromSlice l; pure .unit
  | .fill v => do fill v; pure .unit
  | .fillSpare v => do fillSpare v; pure .unit
  | .fillWith => do fillWith; pure .unit
  | .fillSpareWith => do fillSpareWith; pure .unit
  | .cloneFrom l => do cloneFrom l; pure .unit

/-- the same step on the abstract deque: new contents, new identity counter, output -/
def Spec.stepX (cap : Nat) (xs : List Elem) (next : Nat) : OpX → List Elem × Nat × Out
  | .core op => ((Spec.step cap xs op).1, next, (Spec.step cap xs op).2)
  | .extend m => ((Spec.pushMany cap xs (newElems next m)).1, next + m, .unit)
  | .extendFromSlice l =>
      (Spec.extend cap xs (cloneList .tracked next (l.drop (l.length - cap))),
       next + (l.drop (l.length - cap)).length, .unit)
  | .fill v =>
      (if cap = 0 then [] else cloneList .tracked next (List.replicate (cap - 1) v) ++ [v],
       next + (if cap = 0 then 0 else cap - 1), .unit)
  | .fillSpare v =>
      (if xs.length = cap then xs
       else xs ++ cloneList .tracked next (List.replicate (cap - 1 - xs.length) v) ++ [v],
       next + (if xs.length = cap then 0 else cap - 1 - xs.length), .unit)
  | .fillWith => (newElems next cap, next + cap, .unit)
  | .fillSpareWith => (xs ++ newElems next (cap - xs.length), next + (cap - xs.length), .unit)
  | .cloneFrom l => (Spec.lastN cap (cloneList .tracked next l), next + l.length, .unit)

/-- what the full-API history theorem carries from step to step -/
structure GoodX (cap : Nat) (s : Sys) : Prop where
  inv : Inv s.buf
  cap_eq : s.buf.cap = cap
  nofault : s.faults = {}
  tracked : s.kind = .tracked

theorem GoodX.good {cap : Nat} {s : Sys} (g : GoodX cap s) : Good cap s :=
  ⟨g.inv, g.cap_eq, by rw [g.nofault]⟩

theorem cloneCount_tracked (n : Nat) : cloneCount .tracked n = n := by simp [cloneCount]

theorem Runs.stepX {m : M Unit} {s : Sys} {xs' : List Elem} {evs : List Event} {k cap : Nat}
    (r : Runs m s () xs' evs k) (g : GoodX cap s) :
    ∃ s', (m >>= fun _ => pure Out.unit) s = (.ok Out.unit, s') ∧ GoodX cap s' ∧ abs s'.buf = xs' ∧
      s'.next = s.next + k := by
  obtain ⟨s', e, p⟩ := r
  exact ⟨s', by rw [bind_run, e]; rfl, ⟨p.inv, p.cap_eq.trans g.cap_eq, p.faults_eq.trans g.nofault,
    p.kind_eq.trans g.tracked⟩, p.abs_eq, p.next_eq⟩

theorem stepX_refines (cap : Nat) (s : Sys) (op : OpX) (g : GoodX cap s) :
    ∃ s', runOpX op s = (.ok (Spec.stepX cap (abs s.buf) s.next op).2.2, s') ∧ GoodX cap s' ∧
      abs s'.buf = (Spec.stepX cap (abs s.buf) s.next op).1 ∧
      s'.next = (Spec.stepX cap (abs s.buf) s.next op).2.1 := by
  have h := g.inv
  have hf := g.nofault
  have hk := g.tracked
  have hd : s.faults.drop = 0 := by rw [hf]
  have hcl : s.faults.clone = 0 := by rw [hf]
  have hca : s.faults.call = 0 := by rw [hf]
  have hnx : s.faults.next = 0 := by rw [hf]
  have hlen := abs_length s.buf h
  obtain rfl := g.cap_eq
  cases op with
  | core op =>
    obtain ⟨s', e, g', a, _, k, n, f⟩ := step_refines _ s op g.good
    exact ⟨s', e, ⟨g'.inv, g'.cap_eq, f.trans hf, k.trans hk⟩, a, n⟩
  | extend m => exact (extendIter_runs m s h hd hnx hk).stepX g
  | extendFromSlice l =>
    obtain ⟨evs, r⟩ := extendFromSlice_runs s l h hd hcl
    rw [hk, cloneCount_tracked] at r
    exact r.stepX g
  | fill v =>
    obtain ⟨evs, r⟩ := fill_runs s v h hd hcl
    rw [hk, cloneCount_tracked] at r
    exact r.stepX g
  | fillSpare v =>
    obtain ⟨evs, r⟩ := fillSpare_runs s v h hd hcl
    rw [hk, cloneCount_tracked, ← hlen] at r
    exact r.stepX g
  | fillWith => exact (fillWith_runs s h hd hca hk).stepX g
  | fillSpareWith =>
    have r := fillSpareWith_runs s h hd hca hk
    rw [← hlen] at r
    exact r.stepX g
  | cloneFrom l =>
    obtain ⟨evs, r⟩ := cloneFrom_runs l s h hd hcl
    rw [hk, cloneCount_tracked] at r
    exact r.stepX g

/-- run a whole history over the full API, collecting the outputs -/
def runOpsX : List OpX → Sys → List Out × Sys
  | [], s => ([], s)
  | op :: rest, s =>
    match runOpX op s with
    | (.ok o, s') => let (os, s'') := runOpsX rest s'; (o :: os, s'')
    | (.error _, s') => ([], s')

def Spec.runOpsX (cap : Nat) : List OpX → List Elem → Nat → List Out × List Elem
  | [], xs, _ => ([], xs)
  | op :: rest, xs, next =>
    let st := Spec.stepX cap xs next op
    let r := Spec.runOpsX cap rest st.1 st.2.1
    (st.2.2 :: r.1, r.2)

open List

/-- the elements a step brings in: handed in by the caller, produced by its closure or iterator, or
created by `T::clone` -/
def Spec.enterX (cap : Nat) (xs : List Elem) (next : Nat) : OpX → List Elem
  | .core op => op.given
  | .extend m => newElems next m
  | .extendFromSlice l => cloneList .tracked next (l.drop (l.length - cap))
  | .fill v => (if cap = 0 then [] else cloneList .tracked next (List.replicate (cap - 1) v)) ++ [v]
  | .fillSpare v =>
      (if xs.length = cap then [] else cloneList .tracked next (List.replicate (cap - 1 - xs.length) v)) ++ [v]
  | .fillWith => newElems next cap
  | .fillSpareWith => newElems next (cap - xs.length)
  | .cloneFrom l => cloneList .tracked next l

/-- the elements a step destroys -/
def Spec.destroyedX (cap : Nat) (xs : List Elem) (next : Nat) : OpX → List Elem
  | .core op => Spec.destroyed xs op
  | .extend m => (Spec.pushMany cap xs (newElems next m)).2
  | .extendFromSlice l =>
      let c := cloneList .tracked next (l.drop (l.length - cap))
      (xs ++ c).take ((xs ++ c).length - cap)
  | .fill v => xs ++ (if cap = 0 then [v] else [])
  | .fillSpare v => if xs.length = cap then [v] else []
  | .fillWith => xs
  | .fillSpareWith => []
  | .cloneFrom l =>
      let c := cloneList .tracked next l
      xs ++ c.take (c.length - cap)

theorem perm_drop_take {α : Type} (l : List α) (k : Nat) : l.Perm (l.drop k ++ l.take k) := by
  have h : (l.take k ++ l.drop k).Perm (l.drop k ++ l.take k) := perm_append_comm
  rwa [List.take_append_drop] at h

theorem Spec.stepX_conserves (cap : Nat) (xs : List Elem) (next : Nat) (op : OpX) :
    (xs ++ Spec.enterX cap xs next op).Perm
      ((Spec.stepX cap xs next op).1 ++ (Spec.stepX cap xs next op).2.2.handed ++
        Spec.destroyedX cap xs next op) := by
  cases op with
  | core op => simpa [Spec.enterX, Spec.stepX, Spec.destroyedX] using Spec.step_conserves cap xs op
  | extend m =>
    simpa [Spec.enterX, Spec.stepX, Spec.destroyedX, Out.handed] using
      Spec.pushMany_conserves cap xs (newElems next m)
  | extendFromSlice l =>
    simp only [Spec.enterX, Spec.stepX, Spec.destroyedX, Out.handed, List.append_nil, Spec.extend, Spec.lastN]
    exact perm_drop_take _ _
  | fill v =>
    by_cases h0 : cap = 0
    · simp [Spec.enterX, Spec.stepX, Spec.destroyedX, Out.handed, h0]
    · simp only [Spec.enterX, Spec.stepX, Spec.destroyedX, Out.handed, h0, if_false, List.append_nil]
      exact perm_append_comm
  | fillSpare v =>
    by_cases hf : xs.length = cap <;> simp [Spec.enterX, Spec.stepX, Spec.destroyedX, Out.handed, hf]
  | fillWith =>
    simp only [Spec.enterX, Spec.stepX, Spec.destroyedX, Out.handed, List.append_nil]
    exact perm_append_comm
  | fillSpareWith => simp [Spec.enterX, Spec.stepX, Spec.destroyedX, Out.handed]
  | cloneFrom l =>
    simp only [Spec.enterX, Spec.stepX, Spec.destroyedX, Out.handed, List.append_nil, Spec.lastN]
    exact ((perm_drop_take ..).append_left xs).trans (perm_append_comm_assoc ..)

/-- everything that entered and everything destroyed along a history over the whole API -/
def Spec.tallyX (cap : Nat) : List OpX → List Elem → Nat → List Elem × List Elem × List Elem
  | [], _, _ => ([], [], [])
  | op :: rest, xs, next =>
    let st := Spec.stepX cap xs next op
    let t := Spec.tallyX cap rest st.1 st.2.1
    (Spec.enterX cap xs next op ++ t.1, st.2.2.handed ++ t.2.1, Spec.destroyedX cap xs next op ++ t.2.2)

end CircBuf

import CircBuf.Lemmas.Contents
/-! Equality, ordering, hashing, formatting depend only on the logical contents.

Equality is settled by an equation between programs: `==` on two buffers (or a buffer and a slice)
*is* the element-wise comparison of the two contents behind a test of the lengths
(`eqBuf_eq_eqElems`, `eqSlice_eq_eqElems`), whichever comparison panics; what it returns when none
does is then a fact about `eqElems` alone. -/
namespace CircBuf

def vals (l : List Elem) : List Nat := l.map (·.val)

theorem vals_cons (x : Elem) (xs : List Elem) : vals (x :: xs) = x.val :: vals xs := rfl
theorem vals_append (a b : List Elem) : vals (a ++ b) = vals a ++ vals b := by simp [vals]
theorem vals_take (a : List Elem) (n : Nat) : vals (a.take n) = (vals a).take n := by simp [vals, List.map_take]
theorem vals_drop (a : List Elem) (n : Nat) : vals (a.drop n) = (vals a).drop n := by simp [vals, List.map_drop]
theorem vals_length (a : List Elem) : (vals a).length = a.length := by simp [vals]

/-- the state after some comparisons: only the ledger grew -/
def LogExt (s s' : Sys) : Prop := ∃ evs, s' = { s with log := evs ++ s.log }

theorem LogExt.refl (s : Sys) : LogExt s s := ⟨[], rfl⟩
theorem LogExt.trans {a b c : Sys} (h1 : LogExt a b) (h2 : LogExt b c) : LogExt a c := by
  obtain ⟨e1, rfl⟩ := h1
  obtain ⟨e2, rfl⟩ := h2
  exact ⟨e2 ++ e1, by simp [List.append_assoc]⟩

theorem LogExt.faults {s s' : Sys} (h : LogExt s s') : s'.faults = s.faults := by
  obtain ⟨e, rfl⟩ := h; rfl

theorem LogExt.buf {s s' : Sys} (h : LogExt s s') : s'.buf = s.buf := by
  obtain ⟨e, rfl⟩ := h; rfl

theorem LogExt.bind {α β : Type} {m : M α} {f : α → M β} {s : Sys} {a : α} {b : β}
    (h1 : ∃ s1, m s = (.ok a, s1) ∧ LogExt s s1)
    (h2 : ∀ s1, LogExt s s1 → ∃ s2, f a s1 = (.ok b, s2) ∧ LogExt s1 s2) :
    ∃ s2, (m >>= f) s = (.ok b, s2) ∧ LogExt s s2 := by
  obtain ⟨s1, r1, e1⟩ := h1
  obtain ⟨s2, r2, e2⟩ := h2 s1 e1
  exact ⟨s2, by simp only [bind_run, r1, r2], e1.trans e2⟩

theorem emit_run (e : Event) (s : Sys) : ∃ s', emit e s = (.ok (), s') ∧ LogExt s s' := by
  refine ⟨_, rfl, ?_⟩
  split
  · exact LogExt.refl s
  · exact ⟨[e], rfl⟩

theorem emitAll_run (xs : List Elem) (f : Elem → Event) (s : Sys) :
    ∃ s', (xs.forM (fun e => emit (f e))) s = (.ok (), s') ∧ LogExt s s' := by
  induction xs generalizing s with
  | nil => exact ⟨s, rfl, LogExt.refl s⟩
  | cons x xs ih => exact LogExt.bind (emit_run (f x) s) fun s1 _ => ih s1

theorem eqOne_run (x y : Elem) (s : Sys) (hf : s.faults.eq = 0) :
    ∃ s', eqOne x y s = (.ok (decide (x.val = y.val)), s') ∧ LogExt s s' := by
  obtain ⟨b, l, n, f, k⟩ := s
  obtain ⟨d, c, ca, nx, eq⟩ := f
  simp only at hf; subst hf
  by_cases hk : k = .byte
  · exact ⟨_, by simp [eqOne, tick, hk], LogExt.refl _⟩
  · refine ⟨⟨b, .cmp x.id y.id :: l, n, ⟨d, c, ca, nx, 0⟩, k⟩, by simp [eqOne, tick, hk],
      ⟨[.cmp x.id y.id], rfl⟩⟩

theorem eqElems_run (xs ys : List Elem) (s : Sys) (hf : s.faults.eq = 0) :
    ∃ s', eqElems xs ys s = (.ok (decide (vals xs = vals ys)), s') ∧ LogExt s s' := by
  induction xs generalizing ys s with
  | nil => cases ys <;> exact ⟨s, by simp [eqElems, vals], LogExt.refl s⟩
  | cons x xs ih =>
    cases ys with
    | nil => exact ⟨s, by simp [eqElems, vals], LogExt.refl s⟩
    | cons y ys =>
      -- the answer as `decide (x.val = y.val) && decide (vals xs = vals ys)`: it computes with the loop
      simp only [eqElems, vals_cons, List.cons.injEq, Bool.decide_and]
      refine LogExt.bind (eqOne_run x y s hf) fun s1 e1 => ?_
      cases decide (x.val = y.val) with
      | false => exact ⟨s1, rfl, LogExt.refl s1⟩
      | true => exact ih ys s1 (e1.faults ▸ hf)

/-- Rust's slice `==` tests the lengths before it compares elements; that changes no answer -/
theorem eqElems_run_of_length (xs ys : List Elem) (s : Sys) (hf : s.faults.eq = 0) :
    ∃ s', (if xs.length ≠ ys.length then (.ok false, s) else eqElems xs ys s) =
      (.ok (decide (vals xs = vals ys)), s') ∧ LogExt s s' := by
  split
  · next h =>
    have : vals xs ≠ vals ys := fun e => h (by rw [← vals_length xs, e, vals_length])
    exact ⟨s, by rw [decide_eq_false this], LogExt.refl s⟩
  · exact eqElems_run xs ys s hf

/-- comparing piece by piece, giving up at the first piece that differs, is comparing the whole
(as programs: the same comparisons in the same order, so also the same ledger and the same panic) -/
theorem eqElems_append {a c : List Elem} (b d : List Elem) (h : a.length = c.length) :
    eqElems (a ++ b) (c ++ d) = (do if !(← eqElems a c) then pure false else eqElems b d) := by
  funext s
  induction a generalizing c s with
  | nil =>
    cases c with
    | nil => rfl
    | cons _ _ => nomatch h
  | cons x a ih =>
    cases c with
    | nil => nomatch h
    | cons y c =>
      simp only [List.cons_append, eqElems, bind_run]
      cases eqOne x y s with
      | mk r s1 =>
        cases r with
        | error p => rfl
        | ok r =>
          cases r with
          | false => rfl
          | true => exact ih (Nat.succ.inj h) s1

/-- the second slice of one side reaches at least as far as the first slice of the other -/
theorem sub_le_of_add_eq {a b c d : Nat} (h : a + b = c + d) : c - a ≤ b := by omega

/-- **the three-way alignment of `PartialEq`** compares the two element sequences front to back:
each side is its two slices one after the other (`asSlicesOf_elems`), every branch cuts both sides
at the same positions, and no cut is out of range.  No assumption on the comparisons themselves. -/
theorem eqBuf_eq_eqElems (s : Sys) (other : CB) (h : Inv s.buf) (ho : Inv other) :
    eqBuf other s =
      if s.buf.size ≠ other.size then (.ok false, s) else eqElems (abs s.buf) (abs other) s := by
  obtain ⟨al, ar, hsa, happa, hlal, hlar, hla⟩ := asSlicesOf_elems s.buf h
  obtain ⟨bl, br, hsb, happb, hlbl, hlbr, hlb⟩ := asSlicesOf_elems other ho
  by_cases hsz : s.buf.size ≠ other.size
  · simp only [eqBuf, ↓getBuf_bind_eq, ↓if_pos hsz, pure_run]
  have htot : al.len + ar.len = bl.len + br.len := by rw [hla, hlb]; exact Decidable.of_not_not hsz
  rw [if_neg hsz, ← happa, ← happb]
  -- up to the three-way `if`, once for all three branches
  simp only [eqBuf, ↓getBuf_bind_eq, ↓if_neg hsz, ↓liftE_bind_eq hsa, ↓liftE_bind_eq hsb]
  by_cases hlt : al.len < bl.len
  · have hy := sub_le_of_add_eq htot
    simp only [↓if_pos hlt, ↓liftE_bind_eq (usub_ok _ _ (Nat.le_of_lt hlt)), ↓if_pos hy]
    rw [← eqElems_append _ _ (by rw [List.length_take, List.length_drop, hlar, hlbl, Nat.min_eq_left hy]),
      ← eqElems_append _ _ (by rw [List.length_take, hlal, hlbl, Nat.min_eq_left (Nat.le_of_lt hlt)]),
      List.take_append_drop, ← List.append_assoc, List.take_append_drop]
  by_cases hgt : al.len > bl.len
  · have hy := sub_le_of_add_eq htot.symm
    simp only [↓if_neg hlt, ↓if_pos hgt, ↓liftE_bind_eq (usub_ok _ _ (Nat.le_of_lt hgt)), ↓if_pos hy]
    rw [← eqElems_append _ _ (by rw [List.length_take, List.length_drop, hlal, hlbr, Nat.min_eq_left hy]),
      ← eqElems_append _ _ (by rw [List.length_take, hlal, hlbl, Nat.min_eq_left (Nat.le_of_lt hgt)]),
      List.take_append_drop, ← List.append_assoc, List.take_append_drop]
  · have hel : al.len = bl.len := Nat.le_antisymm (Nat.le_of_not_lt hgt) (Nat.le_of_not_lt hlt)
    have her : ar.len = br.len := Nat.add_left_cancel (hel ▸ htot)
    rw [if_neg hlt, if_neg hgt, dassert_decide _ _ her, pure_bind_eq,
      ← eqElems_append _ _ (by rw [hlal, hlbl, hel])]

/-- **equality of two buffers** (any capacities, any layouts) is equality of their element
sequences; no slice index goes out of range -/
theorem eqBuf_spec (s : Sys) (other : CB) (h : Inv s.buf) (ho : Inv other) (hf : s.faults.eq = 0) :
    ∃ s', eqBuf other s = (.ok (decide (vals (abs s.buf) = vals (abs other))), s') ∧ LogExt s s' := by
  rw [eqBuf_eq_eqElems s other h ho, ← abs_length _ h, ← abs_length _ ho]
  exact eqElems_run_of_length _ _ s hf

theorem eqSlice_eq_eqElems (s : Sys) (other : List Elem) (h : Inv s.buf) :
    eqSlice other s =
      if s.buf.size ≠ other.length then (.ok false, s) else eqElems (abs s.buf) other s := by
  obtain ⟨al, ar, hsa, happa, hlal, hlar, hla⟩ := asSlicesOf_elems s.buf h
  by_cases hsz : s.buf.size ≠ other.length
  · simp only [eqSlice, ↓getBuf_bind_eq, ↓if_pos hsz, pure_run]
  have htot : al.len + ar.len = other.length := hla.trans (Decidable.of_not_not hsz)
  have hle : al.len ≤ other.length := htot ▸ Nat.le_add_right ..
  have hdl : ar.len = (other.drop al.len).length := by
    rw [List.length_drop, ← htot, Nat.add_sub_cancel_left]
  rw [if_neg hsz, ← happa]
  simp only [eqSlice, ↓getBuf_bind_eq, ↓if_neg hsz, ↓liftE_bind_eq hsa, ↓if_pos hle, ↓pure_bind_eq,
    ↓dassert_decide _ _ hdl]
  rw [← eqElems_append _ _ (by rw [List.length_take, hlal, Nat.min_eq_left hle]), List.take_append_drop]

/-- `PartialEq<[U]>`: comparison with a slice (hence arrays and references to them) -/
theorem eqSlice_spec (s : Sys) (other : List Elem) (h : Inv s.buf) (hf : s.faults.eq = 0) :
    ∃ s', eqSlice other s = (.ok (decide (vals (abs s.buf) = vals other)), s') ∧ LogExt s s' := by
  rw [eqSlice_eq_eqElems s other h, ← abs_length _ h]
  exact eqElems_run_of_length _ _ s hf

/-- the lexicographic three-way comparison of two sequences of values -/
def lexCmp : List Nat → List Nat → Int
  | [], [] => 0
  | [], _ :: _ => -1
  | _ :: _, [] => 1
  | x :: xs, y :: ys => if x < y then -1 else if x > y then 1 else lexCmp xs ys

theorem cmpElems_run (xs ys : List Elem) (s : Sys) :
    ∃ s', cmpElems xs ys s = (.ok (lexCmp (vals xs) (vals ys)), s') ∧ LogExt s s' := by
  induction xs generalizing ys s with
  | nil => cases ys <;> exact ⟨s, rfl, LogExt.refl s⟩
  | cons x xs ih =>
    cases ys with
    | nil => exact ⟨s, rfl, LogExt.refl s⟩
    | cons y ys =>
      simp only [cmpElems, vals_cons, lexCmp]
      refine LogExt.bind (emit_run _ s) fun s1 _ => ?_
      by_cases h1 : x.val < y.val
      · simp only [if_pos h1]; exact ⟨s1, rfl, LogExt.refl s1⟩
      by_cases h2 : x.val > y.val
      · simp only [if_neg h1, if_pos h2]; exact ⟨s1, rfl, LogExt.refl s1⟩
      · simp only [if_neg h1, if_neg h2]; exact ih ys s1

theorem contentsOf_run (other : CB) (s : Sys) (ho : Inv other) :
    contentsOf other s = (.ok (abs other), s) := by
  have := contents_run { s with buf := other } ho
  simp only [contentsOf, bind_run, swapIn, attempt, this, pure_run]

/-- `partial_cmp` / `cmp`: the lexicographic order of the two element sequences -/
theorem cmpBuf_spec (s : Sys) (other : CB) (h : Inv s.buf) (ho : Inv other) :
    ∃ s', cmpBuf other s = (.ok (lexCmp (vals (abs s.buf)) (vals (abs other))), s') ∧ LogExt s s' := by
  obtain ⟨s', h1, h2⟩ := cmpElems_run (abs s.buf) (abs other) s
  exact ⟨s', by simp only [cmpBuf, bind_run, contents_run s h, contentsOf_run other s ho, h1], h2⟩

/-- `Hash`: the hasher is fed the length followed by the elements in order -/
theorem hashWords_spec (s : Sys) (h : Inv s.buf) :
    ∃ s', hashWords s = (.ok (s.buf.size :: vals (abs s.buf)), s') ∧ LogExt s s' := by
  obtain ⟨s', h1, h2⟩ := emitAll_run (abs s.buf) (fun e => Event.hashed e.id) s
  exact ⟨s', by simp only [hashWords, bind_run, getBuf_run, contents_run s h, h1, pure_run, vals], h2⟩

/-- `Debug`: the entries of the list are the elements in order -/
theorem fmtItems_spec (s : Sys) (h : Inv s.buf) :
    ∃ s', fmtItems s = (.ok (abs s.buf), s') ∧ LogExt s s' := by
  obtain ⟨s', h1, h2⟩ := emitAll_run (abs s.buf) (fun e => Event.fmt e.id) s
  exact ⟨s', by simp only [fmtItems, bind_run, contents_run s h, h1, pure_run], h2⟩

theorem PB.eqOne (x y : Elem) : PB (eqOne x y) := by
  intro s
  unfold CircBuf.eqOne
  simp only
  split <;> split <;> rfl

theorem PB.eqElems (xs ys : List Elem) : PB (eqElems xs ys) := by
  induction xs generalizing ys with
  | nil => cases ys <;> exact PB.pure _
  | cons x xs ih =>
    cases ys with
    | nil => exact PB.pure _
    | cons y ys =>
      simp only [CircBuf.eqElems]
      apply PB.bind (PB.eqOne x y)
      intro b
      cases b
      · exact PB.pure _
      · exact ih ys

theorem PB.shortCircuit {p q : M Bool} (hp : PB p) (hq : PB q) :
    PB (do if !(← p) then Pure.pure false else q) := by
  apply PB.bind hp; intro b
  cases b
  · exact PB.pure _
  · exact hq

/-- **a panic inside `==`** (any comparison call, any position) cannot change the buffer: the
operation never writes to it -/
theorem eqBuf_readonly (other : CB) : PB (eqBuf other) := by
  have h3 (a b c d e f : List Elem) : PB (do
      if !(← eqElems a b) then pure false
      else if !(← eqElems c d) then pure false
      else eqElems e f) :=
    PB.shortCircuit (PB.eqElems _ _) (PB.shortCircuit (PB.eqElems _ _) (PB.eqElems _ _))
  unfold eqBuf
  refine PB.bind PB.getBuf fun a => PB.ite _ (PB.pure _) ?_
  refine PB.bind (PB.liftE _) fun ⟨al, ar⟩ => PB.bind (PB.liftE _) fun ⟨bl, br⟩ => ?_
  refine PB.ite _ ?_ (PB.ite _ ?_ ?_)
  · exact PB.bind (PB.liftE _) fun y => PB.ite _ (h3 _ _ _ _ _ _) (PB.bind (PB.raise _) fun _ => h3 _ _ _ _ _ _)
  · exact PB.bind (PB.liftE _) fun y => PB.ite _ (h3 _ _ _ _ _ _) (PB.bind (PB.raise _) fun _ => h3 _ _ _ _ _ _)
  · exact PB.bind (PB.dassert _ _) fun _ => PB.shortCircuit (PB.eqElems _ _) (PB.eqElems _ _)

end CircBuf

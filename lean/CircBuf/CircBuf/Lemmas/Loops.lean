import CircBuf.Lemmas.Truncate
import CircBuf.Lemmas.Swap
/-! Operations that call user code in a loop.  Here: the loop they share, `extend` with an iterator, `fill_with` and
`fill_spare_with`; the ones that clone are in `Clones.lean`, `Fill.lean` and `Ctor.lean`.

`Post` is the post-condition shape of the statements (invariant, abstract contents, capacity, ledger,
id counter; faults and element kind untouched).  The proofs speak about the described state instead
(`At`): every lemma takes a state described by contents, capacity, ledger, id counter, fault plan and
kind and returns a state described the same way, so that steps compose by handing the description on.

The four loops of the model that push what user code hands out are one loop, `pushAll`, over a list
of producers.  Its run is described once per kind of producer, for any value of the producer's fault
counter that lets all of them succeed; "the `k+1`-th call panics" is then `k` successful rounds and
one failing call (`pushAll_stops`).  What the pushes add up to on the abstract side — `Spec.pushMany` against
`Spec.lastN` and `Spec.extend` — is here too. -/
namespace CircBuf

structure Post (s s' : Sys) (xs' : List Elem) (evs : List Event) (k : Nat) : Prop where
  inv : Inv s'.buf
  abs_eq : abs s'.buf = xs'
  cap_eq : s'.buf.cap = s.buf.cap
  log_eq : s'.log = evs ++ s.log
  next_eq : s'.next = s.next + k
  faults_eq : s'.faults = s.faults
  kind_eq : s'.kind = s.kind

def Runs (op : M α) (s : Sys) (r : α) (xs' : List Elem) (evs : List Event) (k : Nat) : Prop :=
  ∃ s', op s = (.ok r, s') ∧ Post s s' xs' evs k

theorem Post.size_eq {s s' : Sys} {xs : List Elem} {e : List Event} {k : Nat}
    (p : Post s s' xs e k) : s'.buf.size = xs.length := by
  rw [← p.abs_eq, abs_length _ p.inv]

theorem RefinesL.runs {op : M α} {s : Sys} {r : α} {xs' : List Elem} {evs : List Event}
    (h : RefinesL op s r xs' evs) : Runs op s r xs' evs 0 := by
  obtain ⟨b', h1, h2, h3, h4⟩ := h
  exact ⟨_, h1, ⟨h2, h3, h4, rfl, rfl, rfl, rfl⟩⟩

/-- `s` holds `xs` in a valid buffer of capacity `c`; ledger, id counter, fault plan and element
kind are `l`, `n`, `f`, `K`.  (`Post s s' xs' evs k` says this of `s'`, in terms of `s`.) -/
structure At (s : Sys) (xs : List Elem) (c : Nat) (l : List Event) (n : Nat) (f : Faults) (K : Kind) :
    Prop where
  inv : Inv s.buf
  abs_eq : abs s.buf = xs
  cap_eq : s.buf.cap = c
  log_eq : s.log = l
  next_eq : s.next = n
  faults_eq : s.faults = f
  kind_eq : s.kind = K

theorem At.self {s : Sys} (h : Inv s.buf) : At s (abs s.buf) s.buf.cap s.log s.next s.faults s.kind :=
  ⟨h, rfl, rfl, rfl, rfl, rfl, rfl⟩

theorem At.new (s : Sys) (hW : s.buf.cap < W) :
    At { s with buf := CB.new s.buf.cap } [] s.buf.cap s.log s.next s.faults s.kind :=
  ⟨(inv_new' _ hW).1, (inv_new' _ hW).2, rfl, rfl, rfl, rfl, rfl⟩

theorem At.post {s s' : Sys} {xs' : List Elem} {evs : List Event} {k : Nat}
    (a : At s' xs' s.buf.cap (evs ++ s.log) (s.next + k) s.faults s.kind) : Post s s' xs' evs k :=
  ⟨a.1, a.2, a.3, a.4, a.5, a.6, a.7⟩

theorem Post.at {s s' : Sys} {xs' : List Elem} {evs : List Event} {k : Nat} (p : Post s s' xs' evs k) :
    At s' xs' s.buf.cap (evs ++ s.log) (s.next + k) s.faults s.kind :=
  ⟨p.1, p.2, p.3, p.4, p.5, p.6, p.7⟩

theorem At.runs {s : Sys} {xs : List Elem} {c : Nat} {l : List Event} {n : Nat} {f : Faults} {K : Kind}
    (a : At s xs c l n f K) {op : M α} {r : α} {xs' : List Elem} {evs : List Event} {k : Nat}
    (h : Runs op s r xs' evs k) : ∃ s', op s = (.ok r, s') ∧ At s' xs' c (evs ++ l) (n + k) f K := by
  obtain ⟨-, -, rfl, rfl, rfl, rfl, rfl⟩ := a
  obtain ⟨s', e, p⟩ := h
  exact ⟨s', e, p.at⟩

theorem tick_eq (k : Nat) : tick k = (k - 1, decide (k = 1)) := by
  rcases k with _ | _ | k <;> simp [tick]

/-- the counter of the fault plan that `produceElem which` ticks -/
def Faults.user (f : Faults) (which : String) : Nat := if which = "call" then f.call else f.next

/-- the fault plan `m` successful calls of `produceElem which` later -/
def Faults.tickUser (f : Faults) (which : String) (m : Nat) : Faults :=
  if which = "call" then { f with call := f.call - m } else { f with next := f.next - m }

theorem Faults.clone_sub_of_zero (f : Faults) (m : Nat) (h : f.clone = 0) :
    { f with clone := f.clone - m } = f := by
  rw [h, Nat.zero_sub, ← h]

theorem Faults.tickUser_drop (f : Faults) (w : String) (m : Nat) : (f.tickUser w m).drop = f.drop := by
  unfold Faults.tickUser; split <;> rfl

theorem Faults.tickUser_user (f : Faults) (w : String) (m : Nat) :
    (f.tickUser w m).user w = f.user w - m := by
  unfold Faults.tickUser Faults.user; split <;> rfl

theorem Faults.tickUser_tickUser (f : Faults) (w : String) (a b : Nat) :
    (f.tickUser w a).tickUser w b = f.tickUser w (a + b) := by
  unfold Faults.tickUser; split <;> simp only [Nat.sub_sub]

theorem Faults.tickUser_zero (f : Faults) (w : String) : f.tickUser w 0 = f := by
  unfold Faults.tickUser; split <;> rfl

theorem Faults.tickUser_of_zero (f : Faults) (w : String) (m : Nat) (h : f.user w = 0) :
    f.tickUser w m = f := by
  unfold Faults.tickUser Faults.user at *
  split at h <;> simp only [*, if_true, if_false, Nat.zero_sub] <;> rw [← h]

theorem produceElem_eq (w : String) (s : Sys) : produceElem w s =
    if s.faults.user w = 1 then (.error (.user w), { s with faults := s.faults.tickUser w 1 })
    else if s.kind = .tracked ∨ s.kind = .plain then
      (.ok ⟨s.next, s.next⟩,
        { s with faults := s.faults.tickUser w 1, next := s.next + 1, log := .given s.next :: s.log })
    else (.ok ⟨0, 0⟩, { s with faults := s.faults.tickUser w 1 }) := by
  unfold produceElem Faults.tickUser Faults.user
  by_cases hw : w = "call"
  · simp only [hw, if_true, tick_eq, decide_eq_true_eq]
  · simp only [hw, if_false, tick_eq, decide_eq_true_eq]

theorem PB.produceElem (w : String) : PB (produceElem w) := by
  intro s
  rw [produceElem_eq]
  split
  · rfl
  · split <;> rfl

theorem produceElem_panics (w : String) (s : Sys) (hc : s.faults.user w = 1) :
    produceElem w s = (.error (.user w), { s with faults := s.faults.tickUser w 1 }) := by
  rw [produceElem_eq, if_pos hc]

section
variable {s : Sys} {xs : List Elem} {c : Nat} {l : List Event} {n : Nat} {f : Faults} {K : Kind}

theorem produceElem_at (w : String) (a : At s xs c l n f K) (hK : K = .tracked) (hc : f.user w ≠ 1) :
    ∃ s', produceElem w s = (.ok ⟨n, n⟩, s') ∧
      At s' xs c (.given n :: l) (n + 1) (f.tickUser w 1) K := by
  obtain ⟨hI, rfl, rfl, rfl, rfl, rfl, rfl⟩ := a
  rw [produceElem_eq, if_neg hc, if_pos (.inl hK)]
  exact ⟨_, rfl, hI, rfl, rfl, rfl, rfl, rfl, rfl⟩

theorem dropOpt_eq (o : Option Elem) : dropOpt o = dropAll o.toList := by
  cases o with
  | none => exact dropAll_nil.symm
  | some e => exact dropElem_eq e

theorem PB.dropOpt (o : Option Elem) : PB (dropOpt o) := dropOpt_eq o ▸ PB.dropAll _

/-- `self.push_back(x);` as a statement: the displaced element (if any) is destroyed -/
theorem pushDrop_at (a : At s xs c l n f K) (hd : f.drop = 0) (x : Elem) :
    ∃ s', (pushBack x >>= dropOpt) s = (.ok (), s') ∧
      At s' (Spec.pushBack c xs x).1 c (dropEvents K (Spec.pushBack c xs x).2.toList ++ l) n f K := by
  obtain ⟨hI, rfl, rfl, rfl, rfl, rfl, rfl⟩ := a
  obtain ⟨b', e, hI', hA, hc⟩ := pushBack_spec s x hI
  simp only [bind_run, e, dropOpt_eq, dropAll_nofault _ { s with buf := b' } hd]
  exact ⟨_, rfl, hI', hA, hc, rfl, rfl, rfl, rfl⟩

/-- push what each producer hands out, in turn; the element a push displaces is destroyed at once -/
def pushAll : List (M Elem) → M Unit
  | [] => pure ()
  | p :: ps => do
    let e ← p
    let r ← pushBack e
    dropOpt r
    pushAll ps

theorem pushAll_append (ps qs : List (M Elem)) :
    pushAll (ps ++ qs) = pushAll ps >>= fun _ => pushAll qs := by
  induction ps with
  | nil => rfl
  | cons p ps ih => simp only [List.cons_append, pushAll, ih, M.bind_assoc]

theorem pushAll_cons_ok {p : M Elem} {ps : List (M Elem)} {s s0 s1 : Sys} {y : Elem}
    (hp : p s = (.ok y, s0)) (hpd : (pushBack y >>= dropOpt) s0 = (.ok (), s1)) :
    pushAll (p :: ps) s = pushAll ps s1 := by
  simp only [bind_run] at hpd
  simp only [pushAll, ← M.bind_assoc (pushBack _)]
  simp only [bind_run, hp, hpd]

/-- the producers before `p` succeed, `p` panics: that is how the loop ends -/
theorem pushAll_stops {ps qs : List (M Elem)} {p : M Elem} {s s1 s2 : Sys} {e : Panic}
    (h1 : pushAll ps s = (.ok (), s1)) (h2 : p s1 = (.error e, s2)) :
    pushAll (ps ++ p :: qs) s = (.error e, s2) := by
  rw [pushAll_append, bind_run, h1]
  simp only [pushAll, bind_run, h2]

theorem pushAll_replicate_stops {p : M Elem} {k m : Nat} {s s1 s2 : Sys} {e : Panic} (hkm : k < m)
    (h1 : pushAll (List.replicate k p) s = (.ok (), s1)) (h2 : p s1 = (.error e, s2)) :
    pushAll (List.replicate m p) s = (.error e, s2) := by
  obtain ⟨j, rfl⟩ : ∃ j, m = k + (j + 1) := ⟨m - k - 1, by omega⟩
  rw [← List.replicate_append_replicate, List.replicate_succ]
  exact pushAll_stops h1 h2

/-- pushing `ys` one by one: final contents and the displaced elements in order -/
def Spec.pushMany (cap : Nat) : List Elem → List Elem → List Elem × List Elem
  | xs, [] => (xs, [])
  | xs, e :: rest =>
    let r := Spec.pushMany cap (Spec.pushBack cap xs e).1 rest
    (r.1, (Spec.pushBack cap xs e).2.toList ++ r.2)

/-- the elements an iterator / closure of the harness produces: fresh ids, value = id -/
def newElems (n m : Nat) : List Elem := (List.range' n m).map fun i => ⟨i, i⟩

theorem newElems_length (n m : Nat) : (newElems n m).length = m := by simp [newElems]

theorem newElems_succ (n m : Nat) : newElems n (m + 1) = ⟨n, n⟩ :: newElems (n + 1) m := by
  simp [newElems, List.range'_succ]

/-- ledger of `extend` (newest first): each element is handed in, then the one it displaced is
destroyed -/
def extendLog (k : Kind) (cap : Nat) : List Elem → List Elem → List Event
  | _, [] => []
  | xs, e :: rest =>
    extendLog k cap (Spec.pushBack cap xs e).1 rest ++
      (dropEvents k (Spec.pushBack cap xs e).2.toList ++ [Event.given e.id])

/-- `m` rounds fed by a closure or an iterator whose fault counter is not armed or beyond them -/
theorem pushAll_produce (w : String) (m : Nat) (a : At s xs c l n f K) (hK : K = .tracked)
    (hd : f.drop = 0) (hc : f.user w = 0 ∨ m < f.user w) :
    ∃ s', pushAll (List.replicate m (produceElem w)) s = (.ok (), s') ∧
      At s' (Spec.pushMany c xs (newElems n m)).1 c (extendLog K c xs (newElems n m) ++ l) (n + m)
        (f.tickUser w m) K := by
  induction m generalizing s xs l n f with
  | zero => exact ⟨s, rfl, by simpa [newElems, Spec.pushMany, extendLog, Faults.tickUser_zero] using a⟩
  | succ m ih =>
    obtain ⟨s0, r0, a0⟩ := produceElem_at w a hK (by omega)
    obtain ⟨s1, r1, a1⟩ := pushDrop_at a0 (by rw [Faults.tickUser_drop]; exact hd) ⟨n, n⟩
    obtain ⟨s2, r2, a2⟩ := ih a1 (by rw [Faults.tickUser_drop]; exact hd)
      (by rw [Faults.tickUser_user]; omega)
    refine ⟨s2, (pushAll_cons_ok r0 r1).trans r2, ?_⟩
    simpa [newElems_succ, Spec.pushMany, extendLog, Faults.tickUser_tickUser, Nat.add_assoc,
      List.append_assoc, Nat.add_comm 1 m] using a2

end

theorem pushMany_cap0 (xs ys : List Elem) : Spec.pushMany 0 xs ys = (xs, ys) := by
  induction ys generalizing xs with
  | nil => rfl
  | cons e rest ih => simp [Spec.pushMany, Spec.pushBack, ih]

theorem lastN_length (n : Nat) (xs : List α) : (Spec.lastN n xs).length = min n xs.length := by
  unfold Spec.lastN; rw [List.length_drop, Nat.sub_sub_eq_min, Nat.min_comm]

theorem lastN_cons (n : Nat) (x : α) (l : List α) (h : n ≤ l.length) :
    Spec.lastN n (x :: l) = Spec.lastN n l := by
  unfold Spec.lastN; rw [List.length_cons, Nat.succ_sub h]; rfl

theorem lastN_append (n : Nat) (xs ys : List α) (h : ys.length ≤ n) :
    Spec.lastN n (xs ++ ys) = Spec.lastN (n - ys.length) xs ++ ys := by
  obtain ⟨k, rfl⟩ := Nat.exists_eq_add_of_le' h
  unfold Spec.lastN
  rw [List.length_append, Nat.add_sub_add_right, Nat.add_sub_cancel,
    List.drop_append_of_le_length (Nat.sub_le _ _)]

theorem lastN_append_drop (cap : Nat) (xs ys : List α) :
    Spec.lastN cap (xs ++ ys.drop (ys.length - cap)) = Spec.lastN cap (xs ++ ys) := by
  unfold Spec.lastN
  rcases Nat.le_total ys.length cap with h | h
  · rw [Nat.sub_eq_zero_of_le h, List.drop_zero]
  · rw [List.length_append, List.length_append, List.length_drop, Nat.sub_sub_self h,
      Nat.add_sub_cancel, List.drop_left, Nat.add_sub_assoc h, List.drop_length_add_append]

theorem pushBack_fits (cap : Nat) (xs : List Elem) (x : Elem) (h : xs.length < cap) :
    Spec.pushBack cap xs x = (xs ++ [x], none) := by
  simp [Spec.pushBack, Nat.ne_of_gt (Nat.zero_lt_of_lt h), h]

theorem pushMany_spec (cap : Nat) (hc : 0 < cap) (xs ys : List Elem) (hx : xs.length ≤ cap) :
    Spec.pushMany cap xs ys =
      (Spec.lastN cap (xs ++ ys), (xs ++ ys).take ((xs ++ ys).length - cap)) := by
  induction ys generalizing xs with
  | nil =>
    rw [Spec.pushMany, List.append_nil, Spec.lastN, Nat.sub_eq_zero_of_le hx, List.drop_zero,
      List.take_zero]
  | cons e rest ih =>
    by_cases hr : xs.length < cap
    · have hx' : (xs ++ [e]).length ≤ cap := by rw [List.length_append]; exact hr
      simp only [Spec.pushMany, pushBack_fits cap xs e hr, Option.toList, List.nil_append, ih _ hx',
        List.append_assoc, List.singleton_append]
    · -- a full buffer: the front element goes, and stays out of the last `cap` from then on
      cases xs with
      | nil => exact absurd hc hr
      | cons h t =>
        have hpb : Spec.pushBack cap (h :: t) e = (t ++ [e], some h) := by
          unfold Spec.pushBack
          rw [if_neg (by omega), if_neg hr]; rfl
        have hx' : (t ++ [e]).length ≤ cap := by rw [List.length_append]; exact hx
        have hl : cap ≤ (t ++ e :: rest).length := by
          rw [List.length_append, List.length_cons]; simp only [List.length_cons] at hr; omega
        simp only [Spec.pushMany, hpb, Option.toList, ih _ hx', List.append_assoc, List.cons_append]
        rw [lastN_cons _ _ _ hl, List.length_cons, Nat.succ_sub hl]; rfl

theorem pushMany_contents (cap : Nat) (xs ys : List Elem) (hx : xs.length ≤ cap) :
    (Spec.pushMany cap xs ys).1 = Spec.extend cap xs ys := by
  by_cases hc : cap = 0
  · subst hc
    have : xs = [] := List.eq_nil_of_length_eq_zero (by omega)
    subst this
    simp [pushMany_cap0, Spec.extend, Spec.lastN]
  · rw [pushMany_spec cap (by omega) xs ys hx]; rfl

theorem pushMany_fits (cap : Nat) (xs ys : List Elem) (h : xs.length + ys.length ≤ cap) :
    (Spec.pushMany cap xs ys).1 = xs ++ ys := by
  induction ys generalizing xs with
  | nil => simp [Spec.pushMany]
  | cons e rest ih =>
    simp only [List.length_cons] at h
    rw [Spec.pushMany, pushBack_fits cap xs e (by omega), ih _ (by simp; omega)]
    simp

theorem extendLog_fits (k : Kind) (cap : Nat) (xs ys : List Elem) (h : xs.length + ys.length ≤ cap) :
    extendLog k cap xs ys = ys.reverse.map fun e => Event.given e.id := by
  induction ys generalizing xs with
  | nil => rfl
  | cons e rest ih =>
    simp only [List.length_cons] at h
    rw [extendLog, pushBack_fits cap xs e (by omega), ih _ (by simp; omega)]
    simp [dropEvents_nil]

theorem extendIter_add (k j : Nat) :
    extendIter (k + j) = pushAll (List.replicate k (produceElem "next")) >>= fun _ => extendIter j := by
  induction k with
  | zero => rw [Nat.zero_add]; rfl
  | succ k ih =>
    rw [Nat.add_right_comm]
    simp only [extendIter, List.replicate_succ, pushAll, ih, M.bind_assoc]

theorem extendIter_zero (s : Sys) (hn : s.faults.next = 0) : extendIter 0 s = (.ok (), s) := by
  obtain ⟨b, l, n, f, k⟩ := s
  obtain ⟨d, c, ca, nx, eq⟩ := f
  simp only at hn; subst hn
  simp [extendIter, tick]

/-- whatever is left to do begins with a call of the iterator -/
theorem extendIter_panics (j : Nat) (s : Sys) (hn : s.faults.next = 1) :
    extendIter j s = (.error (.user "next"), { s with faults := s.faults.tickUser "next" 1 }) := by
  cases j with
  | zero => simp [extendIter, tick_eq, hn, Faults.tickUser]
  | succ j => simp only [extendIter, bind_run, produceElem_panics "next" s hn]

theorem extendIter_runs (m : Nat) (s : Sys) (h : Inv s.buf) (hd : s.faults.drop = 0)
    (hn : s.faults.next = 0) (hk : s.kind = .tracked) :
    Runs (extendIter m) s () (Spec.pushMany s.buf.cap (abs s.buf) (newElems s.next m)).1
      (extendLog s.kind s.buf.cap (abs s.buf) (newElems s.next m)) m := by
  obtain ⟨s1, r1, a1⟩ := pushAll_produce "next" m (At.self h) hk hd (Or.inl hn)
  rw [Faults.tickUser_of_zero s.faults "next" m hn] at a1
  refine ⟨s1, ?_, a1.post⟩
  rw [← Nat.add_zero m, extendIter_add, bind_run, r1]
  exact extendIter_zero s1 (a1.faults_eq ▸ hn)

theorem round_congr {p : M Elem} {A B : M Unit} {s : Sys} (hp : PB p)
    (h : Inv s.buf) (hroom : s.buf.size < s.buf.cap)
    (hAB : ∀ s1, Inv s1.buf → s1.buf.cap = s.buf.cap → s1.buf.size = s.buf.size + 1 → A s1 = B s1) :
    (do let e ← p; let r ← pushBack e; dropOpt r; A) s =
      (do let e ← p; let r ← pushBack e; dropOpt r; B) s := by
  have hlen := abs_length s.buf h
  refine bind_congr_ok fun e s0 he => ?_
  have hb : s0.buf = s.buf := by have := hp s; rwa [he] at this
  obtain ⟨b', hpb, hI, hA, hc⟩ := pushBack_spec s0 e (hb ▸ h)
  rw [hb, pushBack_fits _ _ _ (by omega)] at hpb hA
  simp only [bind_run, hpb, dropOpt, pure_run]
  refine hAB _ hI (hc.trans (by rw [hb])) ?_
  have := abs_length b' hI
  rw [hA, List.length_append, hlen] at this
  exact this.symm

theorem fillSpareWithLoop_eq (fuel : Nat) (s : Sys) (h : Inv s.buf)
    (hfuel : fuel = s.buf.cap - s.buf.size) :
    fillSpareWithLoop fuel s = pushAll (List.replicate fuel (produceElem "call")) s := by
  induction fuel generalizing s with
  | zero => have := h.size_le; mrun [fillSpareWithLoop, pushAll, List.replicate]
  | succ fuel ih =>
    have hroom : s.buf.size < s.buf.cap := by omega
    rw [fillSpareWithLoop, bind_run, getBuf_run]
    simp only [hroom, if_true, List.replicate_succ, pushAll]
    exact round_congr (PB.produceElem _) h hroom fun s1 hI hc hs => ih s1 hI (by omega)

theorem fillSpareWith_runs (s : Sys) (h : Inv s.buf) (hd : s.faults.drop = 0)
    (hc : s.faults.call = 0) (hk : s.kind = .tracked) :
    Runs fillSpareWith s () (abs s.buf ++ newElems s.next (s.buf.cap - s.buf.size))
      ((newElems s.next (s.buf.cap - s.buf.size)).reverse.map fun e => Event.given e.id)
      (s.buf.cap - s.buf.size) := by
  have hsz := h.size_le
  have hfit : (abs s.buf).length + (newElems s.next (s.buf.cap - s.buf.size)).length ≤ s.buf.cap := by
    rw [abs_length s.buf h, newElems_length]; omega
  obtain ⟨s1, r1, a1⟩ := pushAll_produce "call" (s.buf.cap - s.buf.size) (At.self h) hk hd (Or.inl hc)
  rw [Faults.tickUser_of_zero s.faults "call" _ hc, pushMany_fits _ _ _ hfit,
    extendLog_fits _ _ _ _ hfit] at a1
  refine ⟨s1, ?_, a1.post⟩
  rw [← r1, ← fillSpareWithLoop_eq _ s h rfl]
  by_cases hc0 : s.buf.cap = 0
  · have hz : s.buf.cap - s.buf.size = 0 := by omega
    rw [hz]
    mrun [fillSpareWith, fillSpareWithLoop]
  · mrun [fillSpareWith]

theorem fillWith_runs (s : Sys) (h : Inv s.buf) (hd : s.faults.drop = 0)
    (hc : s.faults.call = 0) (hk : s.kind = .tracked) :
    Runs fillWith s () (newElems s.next s.buf.cap)
      (((newElems s.next s.buf.cap).reverse.map fun e => Event.given e.id) ++
        dropEvents s.kind (abs s.buf)) s.buf.cap := by
  obtain ⟨s1, r1, p1⟩ := (clear_spec s h hd).runs
  have hs0 : s1.buf.size = 0 := p1.size_eq
  obtain ⟨s2, r2, a2⟩ := p1.at.runs (fillSpareWith_runs s1 p1.inv (p1.faults_eq ▸ hd)
    (p1.faults_eq ▸ hc) (p1.kind_eq ▸ hk))
  refine ⟨s2, by simp only [fillWith, bind_run, r1, r2], At.post ?_⟩
  simpa [p1.abs_eq, p1.cap_eq, p1.next_eq, hs0, List.append_assoc] using a2

end CircBuf

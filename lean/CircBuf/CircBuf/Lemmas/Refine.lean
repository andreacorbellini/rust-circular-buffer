import CircBuf.Lemmas.Abs
import CircBuf.Spec
/-!
  The shapes in which single-step refinements are stated — `Refines` (only the buffer changes) and `RefinesL`
  (the ledger grows too) — with the rules to establish, transport and compose them.  (`Runs` / `Post` for the
  operations that also advance the id counter are in `Loops.lean`; `Frames` in `Props/C20.lean`.)  And `NonDefect`, the
  hypothesis of the ties, which every refinement implies.
-/
namespace CircBuf

/-- `op` run in `s` returns `r` without panicking and touches only the buffer; the new buffer
satisfies the invariant, has the same capacity and holds `xs'`. -/
def Refines (op : M α) (s : Sys) (r : α) (xs' : List Elem) : Prop :=
  ∃ b', op s = (.ok r, { s with buf := b' }) ∧ Inv b' ∧ abs b' = xs' ∧ b'.cap = s.buf.cap

/-- how `Refines` is established: the run equation and what the post-buffer is (usually by `inv_abs_of`) -/
theorem Refines.of_run {op : M α} {s : Sys} {r : α} {xs' : List Elem} {b' : CB}
    (hrun : op s = (.ok r, { s with buf := b' })) (hb : Inv b' ∧ abs b' = xs')
    (hcap : b'.cap = s.buf.cap) : Refines op s r xs' :=
  ⟨b', hrun, hb.1, hb.2, hcap⟩

theorem Refines.congr {op op' : M α} {s : Sys} {r : α} {xs : List Elem} (h : op s = op' s)
    (h' : Refines op' s r xs) : Refines op s r xs := by
  unfold Refines; rw [h]; exact h'

theorem Refines.bind {op1 : M α} {f : α → M β} {s : Sys} {r1 : α} {r2 : β} {xs1 xs2 : List Elem}
    (h1 : Refines op1 s r1 xs1)
    (h2 : ∀ b', Inv b' → abs b' = xs1 → b'.cap = s.buf.cap →
      Refines (f r1) { s with buf := b' } r2 xs2) :
    Refines (op1 >>= f) s r2 xs2 := by
  obtain ⟨b1, e1, i1, a1, c1⟩ := h1
  obtain ⟨b2, e2, i2, a2, c2⟩ := h2 b1 i1 a1 c1
  refine ⟨b2, ?_, i2, a2, c2.trans c1⟩
  simp only [bind_run, e1, e2]

/-- like `Refines`, for operations that also emit ledger events (`evs`, newest first) -/
def RefinesL (op : M α) (s : Sys) (r : α) (xs' : List Elem) (evs : List Event) : Prop :=
  ∃ b', op s = (.ok r, { s with buf := b', log := evs ++ s.log }) ∧ Inv b' ∧ abs b' = xs' ∧
    b'.cap = s.buf.cap

theorem RefinesL.congr {α : Type} {op op' : M α} {s : Sys} {r : α} {xs : List Elem} {evs : List Event}
    (h : op s = op' s) (h' : RefinesL op' s r xs evs) : RefinesL op s r xs evs := by
  unfold RefinesL; rw [h]; exact h'

theorem RefinesL.map {α β : Type} {m : M α} {s : Sys} {r : α} {xs' : List Elem} {evs : List Event}
    (h : RefinesL m s r xs' evs) (f : α → β) : RefinesL (m >>= fun a => pure (f a)) s (f r) xs' evs := by
  obtain ⟨b', e, hb⟩ := h
  exact ⟨b', by rw [bind_run, e]; rfl, hb⟩

/-- (`Refines m s r xs` unfolds to `RefinesL m s r xs []`) -/
theorem Refines.map {α β : Type} {m : M α} {s : Sys} {r : α} {xs' : List Elem} (h : Refines m s r xs')
    (f : α → β) : Refines (m >>= fun a => pure (f a)) s (f r) xs' :=
  RefinesL.map (evs := []) h f

/-- panics that only a defect of the crate can produce (arithmetic overflow, out-of-bounds access, a
read of an empty slot, a failed `debug_assert!`, a panic while panicking) — as opposed to the panics
of user code and the documented ones -/
def Panic.defect : Panic → Bool
  | .user _ => false
  | .doc _ => false
  | _ => true

/-- the run ended normally, or with a user / documented panic -/
def NonDefect {α : Type} (r : Except Panic α) : Prop :=
  match r with
  | .ok _ => True
  | .error p => p.defect = false

theorem NonDefect.ok {α : Type} (a : α) : NonDefect (.ok a : Except Panic α) := trivial
theorem nd_of_eq {α : Type} {m : M α} {s : Sys} {r : Except Panic α} {s' : Sys}
    (e : m s = (r, s')) (hr : NonDefect r) : NonDefect (m s).1 := by rw [e]; exact hr

theorem nd_of_bind {α β : Type} (m : M α) (f : α → M β) (s : Sys) (h : NonDefect ((m >>= f) s).1) :
    NonDefect (m s).1 := by
  simp only [bind_run] at h
  cases hm : m s with
  | mk r s' =>
    cases r with
    | ok a => trivial
    | error p => rw [hm] at h; exact h

theorem RefinesL.nd {α : Type} {op : M α} {s : Sys} {r : α} {xs : List Elem} {evs : List Event}
    (h : RefinesL op s r xs evs) : NonDefect (op s).1 := by
  obtain ⟨b', e, _⟩ := h; exact nd_of_eq e trivial
theorem Refines.nd {α : Type} {op : M α} {s : Sys} {r : α} {xs : List Elem} (h : Refines op s r xs) :
    NonDefect (op s).1 := RefinesL.nd (evs := []) h

end CircBuf

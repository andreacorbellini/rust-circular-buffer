import CircBuf.Lemmas.DropRange
/-! `truncate_back`, `truncate_front`, `clear` (which is what `Drop` runs): each is one `dropAll` on the shrunk buffer
(`Destroys`), read once for a run without destructor panic and once for any fault plan. -/
namespace CircBuf

/-- `op` leaves a valid buffer holding `xs'` and destroys `es`, each exactly once, whatever the fault
counter and the element kind -/
def Destroys (op : M Unit) (s : Sys) (xs' es : List Elem) : Prop :=
  ∃ b', op s = dropAll es { s with buf := b' } ∧ Inv b' ∧ abs b' = xs' ∧ b'.cap = s.buf.cap

theorem Destroys.refinesL {op : M Unit} {s : Sys} {xs' es : List Elem} (h : Destroys op s xs' es)
    (hf : s.faults.drop = 0) : RefinesL op s () xs' (dropEvents s.kind es) := by
  obtain ⟨b', e, hI, hA, hc⟩ := h
  exact ⟨b', by rw [e, dropAll_nofault _ { s with buf := b' } hf], hI, hA, hc⟩

/-! The two truncations in their two forms: nothing to do, or one `dropRange` followed by the check of the new
size.  (`truncateBack_destroys` / `truncateFront_destroys` say what the second form does; the tie theorems
compare a translated body with either form.) -/

theorem truncateBack_done (n : Nat) (s : Sys) (hz : s.buf.cap = 0 ∨ n ≥ s.buf.size) :
    truncateBack n s = (.ok (), s) := by
  simp only [truncateBack, ↓getBuf_bind, ↓ite_run, hz, if_true, ↓pure_run]

theorem truncateBack_run (n : Nat) (s : Sys) (hz : ¬ (s.buf.cap = 0 ∨ n ≥ s.buf.size)) :
    truncateBack n s = (dropRange n s.buf.size >>= fun _ => do
      let b' ← getBuf
      dassert (decide (b'.size = n))) s := by
  simp only [truncateBack, ↓getBuf_bind, ↓ite_run, hz, if_false]

theorem truncateFront_done (n : Nat) (s : Sys) (hz : s.buf.cap = 0 ∨ n ≥ s.buf.size) :
    truncateFront n s = (.ok (), s) := by
  simp only [truncateFront, ↓getBuf_bind, ↓ite_run, hz, if_true, ↓pure_run]

theorem truncateFront_run (n : Nat) (s : Sys) (hz : ¬ (s.buf.cap = 0 ∨ n ≥ s.buf.size)) :
    truncateFront n s = (dropRange 0 (s.buf.size - n) >>= fun _ => do
      let b' ← getBuf
      dassert (decide (b'.size = n))) s := by
  have hu : usub s.buf.size n = .ok (s.buf.size - n) := usub_ok _ _ (by omega)
  simp only [truncateFront, ↓getBuf_bind, ↓ite_run, hz, if_false, ↓liftE_bind, hu]

theorem truncateBack_destroys (s : Sys) (n : Nat) (h : Inv s.buf) :
    Destroys (truncateBack n) s ((abs s.buf).take n) ((abs s.buf).drop n) := by
  have hlen := abs_length s.buf h
  by_cases hz : s.buf.cap = 0 ∨ n ≥ s.buf.size
  · have hle : (abs s.buf).length ≤ n := by have := h.size_le; omega
    refine ⟨s.buf, ?_, h, (List.take_of_length_le hle).symm, rfl⟩
    rw [List.drop_of_length_le hle, dropAll_nil]
    exact truncateBack_done n s hz
  · have hn : n < s.buf.size := Nat.lt_of_not_le fun hn => hz (.inr hn)
    have hd := dropRange_eq s n s.buf.size h hn (Nat.le_refl _) (Or.inr rfl)
    obtain ⟨hI, hA⟩ := shrink_spec s.buf h n s.buf.size (Nat.le_of_lt hn) (Nat.le_refl _) (Or.inr rfl)
    rw [List.take_of_length_le (by rw [List.length_drop, hlen]; exact Nat.le_refl _)] at hd
    rw [List.drop_of_length_le (Nat.le_of_eq hlen), List.append_nil] at hA
    have hs : (shrink s.buf n s.buf.size).size = n := by unfold shrink; rw [if_pos rfl]
    refine ⟨_, ?_, hI, hA, shrink_cap _ _ _⟩
    rw [truncateBack_run n s hz]
    exact dropAll_then hd fun s1 e => by mrun [e]

theorem truncateFront_destroys (s : Sys) (n : Nat) (h : Inv s.buf) :
    Destroys (truncateFront n) s (Spec.lastN n (abs s.buf))
      ((abs s.buf).take ((abs s.buf).length - n)) := by
  have hlen := abs_length s.buf h
  unfold Spec.lastN
  rw [hlen]
  by_cases hz : s.buf.cap = 0 ∨ n ≥ s.buf.size
  · have hle : s.buf.size - n = 0 := by have := h.size_le; omega
    refine ⟨s.buf, ?_, h, by rw [hle, List.drop_zero], rfl⟩
    rw [hle, List.take_zero, dropAll_nil]
    exact truncateFront_done n s hz
  · have hn : n < s.buf.size := Nat.lt_of_not_le fun hn => hz (.inr hn)
    have hd := dropRange_eq s 0 (s.buf.size - n) h (Nat.sub_pos_of_lt hn) (Nat.sub_le _ _) (Or.inl rfl)
    obtain ⟨hI, hA⟩ := shrink_spec s.buf h 0 (s.buf.size - n) (Nat.zero_le _) (Nat.sub_le _ _) (Or.inl rfl)
    rw [List.drop_zero, Nat.sub_zero] at hd
    rw [List.take_zero, List.nil_append] at hA
    have hs : (shrink s.buf 0 (s.buf.size - n)).size = n := by
      rw [← abs_length _ hI, hA, List.length_drop, hlen, Nat.sub_sub_self (Nat.le_of_lt hn)]
    refine ⟨_, ?_, hI, hA, shrink_cap _ _ _⟩
    rw [truncateFront_run n s hz]
    exact dropAll_then hd fun s1 e => by mrun [e]

theorem clear_destroys (s : Sys) (h : Inv s.buf) : Destroys clear s [] (abs s.buf) := by
  simpa [clear] using truncateBack_destroys s 0 h

theorem truncateBack_spec (s : Sys) (n : Nat) (h : Inv s.buf) (hf : s.faults.drop = 0) :
    RefinesL (truncateBack n) s () ((abs s.buf).take n)
      (dropEvents s.kind ((abs s.buf).drop n)) :=
  (truncateBack_destroys s n h).refinesL hf

theorem truncateFront_spec (s : Sys) (n : Nat) (h : Inv s.buf) (hf : s.faults.drop = 0) :
    RefinesL (truncateFront n) s () (Spec.lastN n (abs s.buf))
      (dropEvents s.kind ((abs s.buf).take ((abs s.buf).length - n))) :=
  (truncateFront_destroys s n h).refinesL hf

theorem clear_spec (s : Sys) (h : Inv s.buf) (hf : s.faults.drop = 0) :
    RefinesL clear s () [] (dropEvents s.kind (abs s.buf)) :=
  (clear_destroys s h).refinesL hf

/-- what a destroying call leaves behind, whatever destructor call panicked -/
structure PostDrop (s s' : Sys) (xs' dropped : List Elem) : Prop where
  inv : Inv s'.buf
  abs_eq : abs s'.buf = xs'
  cap_eq : s'.buf.cap = s.buf.cap
  log_eq : s'.log = dropEvents s.kind dropped ++ s.log
  next_eq : s'.next = s.next
  kind_eq : s'.kind = s.kind

theorem Destroys.postDrop {op : M Unit} {s : Sys} {xs' es : List Elem} (h : Destroys op s xs' es)
    (hk : ¬ (s.kind = .byte ∨ s.kind = .plain)) {n : Nat} (hn : es.length = n) :
    ∃ s', op s = (dropOutcome s.faults.drop n, s') ∧ PostDrop s s' xs' es ∧
      s'.faults = { s.faults with drop := s.faults.drop - n } := by
  obtain ⟨b', e, hI, hA, hc⟩ := h
  rw [e, dropAll_destructor _ { s with buf := b' } hk, hn]
  exact ⟨_, rfl, ⟨hI, hA, hc, rfl, rfl, rfl⟩, rfl⟩

end CircBuf

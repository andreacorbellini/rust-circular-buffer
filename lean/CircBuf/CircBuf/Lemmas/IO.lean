import CircBuf.Lemmas.ExtendSlice
import CircBuf.Lemmas.Drain
import CircBuf.Lemmas.Contents
/-! Byte-stream I/O on `CircularBuffer<N, u8>` (`std::io`, `embedded-io`, `embedded-io-async`). -/
namespace CircBuf

/-- `Write::write`: accepts everything, reports the full length, keeps the newest `cap` bytes -/
theorem ioWrite_spec (s : Sys) (src : List Elem) (h : Inv s.buf) (hk : s.kind = .byte)
    (hd : s.faults.drop = 0) (hcl : s.faults.clone = 0) :
    ∃ evs, Runs (ioWrite src) s src.length (Spec.lastN s.buf.cap (abs s.buf ++ src)) evs 0 := by
  obtain ⟨evs, s', hrun, p⟩ := extendFromSlice_runs s src h hd hcl
  refine ⟨evs, s', ?_, ⟨p.inv, ?_, p.cap_eq, p.log_eq, ?_, p.faults_eq, p.kind_eq⟩⟩
  · simp only [ioWrite, bind_run, hrun, pure_run]
  · rw [p.abs_eq, hk, cloneList_byte, Spec.extend, lastN_append_drop]
  · rw [p.next_eq, hk, cloneCount_byte]

/-- `k` elements are wanted from two pieces in turn: what the two reads copy, and how many that is.
(Either the first piece covers the request or it is used up and the second supplies the rest.) -/
theorem take_two (F B : List α) (k : Nat) :
    F.take (min k F.length) ++ B.take (min (k - min k F.length) B.length)
      = (F ++ B).take (min k (F ++ B).length) := by
  rw [← List.take_eq_take_min, ← List.take_eq_take_min, ← List.take_eq_take_min, List.take_append,
    ← Nat.sub_eq_sub_min]

theorem min_add_min_sub (k a b : Nat) : min k a + min (k - min k a) b = min k (a + b) := by
  rcases Nat.le_total k a with h | h
  · rw [Nat.min_eq_left h, Nat.sub_self, Nat.zero_min, Nat.add_zero,
      Nat.min_eq_left (Nat.le_add_right_of_le h)]
  · rw [Nat.min_eq_right h, ← Nat.add_min_add_left, Nat.add_sub_cancel' h]

/-- `Read::read` into a destination of `k` bytes: copies `min k len` bytes from the front, in order,
and removes exactly those -/
theorem ioRead_spec (s : Sys) (k : Nat) (h : Inv s.buf) (hd : s.faults.drop = 0) :
    ∃ evs, Runs (ioRead k) s (min k (abs s.buf).length, (abs s.buf).take (min k (abs s.buf).length))
      ((abs s.buf).drop (min k (abs s.buf).length)) evs 0 := by
  obtain ⟨f, b, hsl, happ, hfl, hbl, htot⟩ := asSlicesOf_elems s.buf h
  have hlen := abs_length _ h
  have htake := take_two (viewElems s.buf f) (viewElems s.buf b) k
  have hcount := min_add_min_sub k f.len b.len
  rw [hfl, hbl, happ, hlen] at htake
  rw [htot] at hcount
  have hm : min k s.buf.size ≤ s.buf.size := Nat.min_le_right ..
  have hlt : min k f.len + min (k - min k f.len) b.len < W :=
    hcount ▸ Nat.lt_of_le_of_lt (Nat.le_trans hm h.size_le) h.cap_lt
  obtain ⟨s1, r1, p1⟩ := (truncateFront_spec s (s.buf.size - min k s.buf.size) h hd).runs
  rw [hlen]
  refine ⟨_, s1, ?_, { p1 with abs_eq := ?_ }⟩
  · -- the side conditions are handed over: `omega` on these nested `min`s is slow
    simp only [ioRead, asSlices, ↓bind_run, ↓getBuf_run, hsl, ↓liftE_ok, ↓if_pos (Nat.min_le_left ..),
      ↓pure_run, uadd_ok _ _ hlt, hcount, usub_ok _ _ hm, htake, r1]
  · rw [p1.abs_eq, Spec.lastN, hlen, Nat.sub_sub_self hm]

/-- `BufRead::fill_buf`: a prefix of the contents, non-empty whenever the buffer is non-empty -/
theorem ioFillBuf_spec (s : Sys) (h : Inv s.buf) :
    ∃ v, ioFillBuf s = (.ok v, s) ∧ (∃ rest, viewElems s.buf v ++ rest = abs s.buf) ∧
      (abs s.buf ≠ [] → viewElems s.buf v ≠ []) := by
  obtain ⟨f, b, hsl, happ, hfl, _, _⟩ := asSlicesOf_elems s.buf h
  by_cases hf : f.len = 0
  · have e : viewElems s.buf b = abs s.buf := by
      rw [← happ, List.eq_nil_of_length_eq_zero (hfl.trans hf), List.nil_append]
    exact ⟨b, by mrun [ioFillBuf, asSlices, hsl],
      ⟨[], by rw [List.append_nil, e]⟩, fun hne => e ▸ hne⟩
  · refine ⟨f, by mrun [ioFillBuf, asSlices, hsl], ⟨_, happ⟩, ?_⟩
    intro _ hnil
    rw [hnil] at hfl
    exact hf hfl.symm

/-- `BufRead::consume(k)`: removes the first `min k len` bytes; never fails, any capacity -/
theorem ioConsume_spec (s : Sys) (k : Nat) (h : Inv s.buf) (hd : s.faults.drop = 0) :
    ∃ b' evs, ioConsume k s = (.ok (), { s with buf := b', log := evs ++ s.log }) ∧ Inv b' ∧
      abs b' = (abs s.buf).drop (min k (abs s.buf).length) ∧ b'.cap = s.buf.cap := by
  have hamt : min k s.buf.size < W :=
    Nat.lt_of_le_of_lt (Nat.min_le_right ..) (Nat.lt_of_le_of_lt h.size_le h.cap_lt)
  obtain ⟨hnew, hinv⟩ := Drain.new_spec .unb (.excl (min k s.buf.size)) s h W_pos hamt
    (Nat.min_le_right ..) (Nat.zero_le _)
  simp only [Bound.startNat, Bound.endNat] at hnew hinv
  obtain ⟨b', hdrop, hI, hA, hC, _⟩ := Drain.drop_spec s.buf _ _ hinv (by simp only; exact hd)
  refine ⟨b', dropEvents s.kind (((abs s.buf).drop 0).take (min k s.buf.size - 0)), ?_, hI, ?_, hC⟩
  · simp only [ioConsume, bind_run, getBuf_run, hnew, hdrop]
  · rw [hA, abs_length s.buf h]; simp

end CircBuf

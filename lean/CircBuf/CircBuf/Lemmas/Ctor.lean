import CircBuf.Lemmas.Contents
import CircBuf.Lemmas.ExtendSlice
/-! Constructors and conversions: `From<[T; M]>`, `clone_from`, `clone`. -/
namespace CircBuf

/-- `From<[T; M]>`: the last `cap` elements of the array are moved into the buffer, then the surplus is
destroyed; if that panics, the buffer under construction is dropped while unwinding -/
theorem fromArray_eq (s : Sys) (arr : List Elem) (hW : s.buf.cap < W) :
    ∃ b', fromArray arr s =
        onPanic (dropAll (arr.take (arr.length - s.buf.cap))) dropBuffer { s with buf := b' } ∧
      Inv b' ∧ abs b' = Spec.lastN s.buf.cap arr ∧ b'.cap = s.buf.cap ∧ b'.start = 0 := by
  -- `size` in the source is the smaller of the two lengths
  have hmin : (if s.buf.cap ≥ arr.length then arr.length else s.buf.cap) = min arr.length s.buf.cap :=
    Nat.min_def.symm
  have hskip : arr.length - min arr.length s.buf.cap = arr.length - s.buf.cap :=
    (Nat.sub_eq_sub_min ..).symm
  have hlen : (Spec.lastN s.buf.cap arr).length = min arr.length s.buf.cap := by
    rw [lastN_length, Nat.min_comm]
  obtain ⟨hI, hA⟩ := inv_abs_of ⟨s.buf.cap, min arr.length s.buf.cap, 0,
      fun i => if i < min arr.length s.buf.cap then arr[arr.length - s.buf.cap + i]? else none⟩
    (Spec.lastN s.buf.cap arr) hW hlen (Nat.min_le_right ..)
    ((Nat.eq_zero_or_pos s.buf.cap).elim (fun h0 => .inr ⟨h0, rfl⟩) .inl) fun i hi => by
      rw [hlen] at hi
      simp only [phys_zero_left _ _ (Nat.lt_of_lt_of_le hi (Nat.min_le_right ..)), hi, if_true,
        Spec.lastN, List.getElem_drop]
      exact List.getElem?_eq_getElem _
  refine ⟨_, ?_, hI, hA, rfl, rfl⟩
  mrun [fromArray, hmin, hskip, dropElems_eq]

/-- `From<[T; M]>`: keeps the last `cap` elements (the very same elements), destroys the others once -/
theorem fromArray_spec (s : Sys) (arr : List Elem) (hW : s.buf.cap < W) (hf : s.faults.drop = 0) :
    ∃ b', fromArray arr s = (.ok (), { s with
        buf := b'
        log := dropEvents s.kind (arr.take (arr.length - s.buf.cap)) ++ s.log }) ∧
      Inv b' ∧ abs b' = Spec.lastN s.buf.cap arr ∧ b'.cap = s.buf.cap ∧ b'.start = 0 := by
  obtain ⟨b', e, hb⟩ := fromArray_eq s arr hW
  exact ⟨b', by rw [e, onPanic, dropAll_nofault _ { s with buf := b' } hf], hb⟩

/-- `clone_from(other)`: the old contents are destroyed, then clones of `other` are pushed -/
theorem cloneFrom_runs (other : List Elem) (s : Sys) (h : Inv s.buf) (hd : s.faults.drop = 0)
    (hc : s.faults.clone = 0) :
    ∃ evs, Runs (cloneFrom other) s () (Spec.lastN s.buf.cap (cloneList s.kind s.next other)) evs
      (cloneCount s.kind other.length) := by
  obtain ⟨s1, r1, p1⟩ := (clear_spec s h hd).runs
  obtain ⟨s2, evs, r2, a2, _⟩ := pushAll_clones other p1.at hd (Or.inl hc)
  rw [Faults.clone_sub_of_zero _ _ hc, pushMany_contents _ _ _ (by simp)] at a2
  refine ⟨evs ++ dropEvents s.kind (abs s.buf), s2,
    by simp only [cloneFrom, bind_run, r1, extendCloned_eq, r2], At.post ?_⟩
  simpa [Spec.extend, List.append_assoc] using a2

/-- `Clone::clone`: a new buffer holding clones of the elements in order (fresh identities for
element types that have one); the source is not touched -/
theorem cloneBuf_spec (s : Sys) (h : Inv s.buf) (hd : s.faults.drop = 0) (hc : s.faults.clone = 0) :
    ∃ nb s', cloneBuf s = (.ok nb, s') ∧ s'.buf = s.buf ∧ Inv nb ∧ nb.cap = s.buf.cap ∧
      abs nb = cloneList s.kind s.next (abs s.buf) ∧
      s'.next = s.next + cloneCount s.kind (abs s.buf).length := by
  have hlen := abs_length s.buf h
  obtain ⟨s2, evs, r2, a2, _⟩ := pushAll_clones (abs s.buf) (At.new s h.cap_lt) hd (Or.inl hc)
  rw [pushMany_fits _ _ _ (by have := h.size_le; simp [cloneList_length, hlen]; omega)] at a2
  refine ⟨s2.buf, { s2 with buf := s.buf }, ?_, rfl, a2.inv, a2.cap_eq, a2.abs_eq, a2.next_eq⟩
  have hsl := iterSlots_run s h
  have hall := readAll_window s h
  simp only [cloneBuf, bind_run, getBuf_run, hsl, hall, swapIn, attempt, onPanic, extendCloned_eq, r2,
    pure_run]

end CircBuf

import CircBuf.Lemmas.TieTac
set_option linter.unusedSimpArgs false
set_option linter.unusedVariables false
/-!
# Agreement up to the dead slots

`LiveEq x y`: the two runs `x`, `y : Except Panic α × Sys` return the same value (or the same panic) and
end in states that agree on everything *except the contents of the slots outside the live window*
(`size` slots from `start`, wrapping).  Nothing an operation of the crate does reads a dead slot before
writing it, so no property theorem stated through `abs` and `Inv` can tell such states apart; but two
bodies that compute the same thing may well leave different stale bytes behind (a `swap_remove_back`
that moves the last element into the hole, against one that swaps and then pops).  The ties between
the translated source and the model are therefore also offered in this weaker form.
-/
namespace CircBuf
variable {α β : Type}

def LiveEq (x y : Except Panic α × Sys) : Prop :=
  x.1 = y.1 ∧ x.2.log = y.2.log ∧ x.2.next = y.2.next ∧ x.2.faults = y.2.faults ∧ x.2.kind = y.2.kind ∧
  x.2.buf.cap = y.2.buf.cap ∧ x.2.buf.size = y.2.buf.size ∧ x.2.buf.start = y.2.buf.start ∧
  ∀ i, i < y.2.buf.size →
    x.2.buf.items (phys y.2.buf.start y.2.buf.cap i) = y.2.buf.items (phys y.2.buf.start y.2.buf.cap i)

theorem LiveEq.refl (x : Except Panic α × Sys) : LiveEq x x :=
  ⟨rfl, rfl, rfl, rfl, rfl, rfl, rfl, rfl, fun _ _ => rfl⟩

theorem LiveEq.of_eq {x y : Except Panic α × Sys} (h : x = y) : LiveEq x y := h ▸ LiveEq.refl x

/-- what a run that agrees, up to dead slots, with a run ending in a state that satisfies the
invariant looks like -/
theorem LiveEq.ok {x : Except Panic α × Sys} {r : Except Panic α} {s' : Sys} (hl : LiveEq x (r, s'))
    (hI : Inv s'.buf) :
    ∃ b2, x = (r, { s' with buf := b2 }) ∧ Inv b2 ∧ abs b2 = abs s'.buf ∧ b2.cap = s'.buf.cap ∧
      b2.size = s'.buf.size ∧ b2.start = s'.buf.start ∧
      ∀ i, i < s'.buf.size → b2.items (phys s'.buf.start s'.buf.cap i) = s'.buf.items (phys s'.buf.start s'.buf.cap i) := by
  obtain ⟨x1, x2⟩ := x
  obtain ⟨h1, h2, h3, h4, h5, h6, h7, h8, h9⟩ := hl
  simp only at h1 h2 h3 h4 h5 h6 h7 h8 h9
  have hlen := abs_length s'.buf hI
  obtain ⟨hI2, hA2⟩ := inv_abs_of x2.buf (abs s'.buf) (h6 ▸ hI.cap_lt) (by rw [hlen, h7])
    (by rw [h7, h6]; exact hI.size_le) (by rw [h8, h6]; exact hI.start_lt)
    (fun i hi => by rw [h8, h6, h9 i (hlen ▸ hi)]; exact abs_getElem _ hI i hi)
  refine ⟨x2.buf, ?_, hI2, hA2, h6, h7, h8, h9⟩
  subst h1
  obtain ⟨b, l, n, f, k⟩ := x2
  simp only at h2 h3 h4 h5
  subst h2 h3 h4 h5
  rfl

/-- the shape of the C02 statements (value returned, invariant, capacity, contents) -/
theorem LiveEq.ex4 {x m : Except Panic α × Sys} {s : Sys} {r : α} {cap : Nat} {xs : List Elem}
    (hl : LiveEq x m) (hm : ∃ b', m = (.ok r, { s with buf := b' }) ∧ Inv b' ∧ b'.cap = cap ∧ abs b' = xs) :
    ∃ b', x = (.ok r, { s with buf := b' }) ∧ Inv b' ∧ b'.cap = cap ∧ abs b' = xs := by
  obtain ⟨b', e, hI, hc, ha⟩ := hm
  rw [e] at hl
  obtain ⟨b2, e2, hI2, ha2, hc2, _⟩ := LiveEq.ok hl hI
  exact ⟨b2, e2, hI2, by rw [hc2]; exact hc, by rw [ha2]; exact ha⟩

/-- `Refines` is insensitive to the dead slots (`ex4`, with the facts in the order of `Refines`) -/
theorem Refines.of_liveEq {op op' : M α} {s : Sys} {r : α} {xs : List Elem}
    (hl : LiveEq (op s) (op' s)) (hr : Refines op' s r xs) : Refines op s r xs := by
  obtain ⟨b', e, hI, ha, hc⟩ := hr
  obtain ⟨b2, e2, hI2, hc2, ha2⟩ := LiveEq.ex4 hl ⟨b', e, hI, hc, ha⟩
  exact ⟨b2, e2, hI2, ha2, hc2⟩

/-- the shape of the C04 statements (two runs from two layouts of the same contents) -/
theorem LiveEq.ex2 {x1 m1 x2 m2 : Except Panic α × Sys} {s1 s2 : Sys}
    (hl1 : LiveEq x1 m1) (hl2 : LiveEq x2 m2)
    (hm : ∃ r b1 b2, m1 = (.ok r, { s1 with buf := b1 }) ∧ m2 = (.ok r, { s2 with buf := b2 }) ∧
      Inv b1 ∧ Inv b2 ∧ abs b1 = abs b2 ∧ b1.cap = b2.cap) :
    ∃ r b1 b2, x1 = (.ok r, { s1 with buf := b1 }) ∧ x2 = (.ok r, { s2 with buf := b2 }) ∧
      Inv b1 ∧ Inv b2 ∧ abs b1 = abs b2 ∧ b1.cap = b2.cap := by
  obtain ⟨r, b1, b2, e1, e2, hI1, hI2, ha, hc⟩ := hm
  rw [e1] at hl1
  rw [e2] at hl2
  obtain ⟨c1, f1, hJ1, ha1, hc1, _⟩ := LiveEq.ok hl1 hI1
  obtain ⟨c2, f2, hJ2, ha2, hc2, _⟩ := LiveEq.ok hl2 hI2
  exact ⟨r, c1, c2, f1, f2, hJ1, hJ2, by rw [ha1, ha2]; exact ha, by rw [hc1, hc2]; exact hc⟩

theorem LiveEq.map {m m' : M α} {s : Sys} (f : α → β) (hl : LiveEq (m s) (m' s)) :
    LiveEq ((m >>= fun a => pure (f a)) s) ((m' >>= fun a => pure (f a)) s) := by
  simp only [↓bind_run]
  obtain ⟨h1, hrest⟩ := hl
  cases hx : m s with
  | mk r1 s1 => cases hy : m' s with
    | mk r2 s2 =>
      rw [hx, hy] at h1 hrest
      simp only at h1; subst h1
      cases r1 <;> exact ⟨rfl, hrest⟩

section tactics
open Lean Elab Tactic Meta

/-- `liveReads h` (`h : Inv s.buf`): every read `s.buf.items t` of the goal whose slot `omega` places
inside the live window is replaced by `some v` for a fresh `v` -/
elab "liveReads" h:ident : tactic => withMainContext do
  let g ← getMainGoal
  let t ← instantiateMVars (← g.getType)
  let found ← IO.mkRef (#[] : Array Expr)
  t.forEach fun e => do
    if e.isAppOfArity ``CircBuf.CB.items 2 && !e.hasLooseBVars then
      found.modify fun acc => if acc.contains e then acc else acc.push e
  let reads ← found.get
  for e in reads do
    let idx ← Term.exprToSyntax (e.getArg! 1) |>.run'
    -- a slot already named by an earlier read (possibly computed in another way)?
    for d in (← getLCtx) do
      if d.isImplementationDetail then continue
      let ty ← instantiateMVars d.type
      if !ty.isAppOfArity ``Eq 3 then continue
      let lhs := ty.getArg! 1
      if !(lhs.isAppOfArity ``CircBuf.CB.items 2 && lhs.getArg! 0 == e.getArg! 0) then continue
      if !(ty.getArg! 2).isAppOfArity ``Option.some 2 then continue
      let idx' ← Term.exprToSyntax (lhs.getArg! 1) |>.run'
      let hyp := mkIdent d.userName
      let eStx ← Term.exprToSyntax e |>.run'
      let rhs ← Term.exprToSyntax (ty.getArg! 2) |>.run'
      let hypE ← Term.exprToSyntax d.toExpr |>.run'
      let tac ← `(tactic| (
        have hr_ : $eStx = $rhs := by
          have hidx_ : $idx = $idx' := by omega
          rw [hidx_]; exact $hypE
        simp only [hr_]
        try clear hr_))
      let saved ← saveState
      try
        evalTactic tac
        return
      catch _ => saved.restore
    let tac ← `(tactic| (
      obtain ⟨v_, hv_⟩ := Inv.live_slot $h $idx (by omega)
      simp only [hv_]))
    let saved ← saveState
    try
      evalTactic tac
      return
    catch _ => saved.restore
  throwError "liveReads: no read inside the live window"

end tactics

/-- the weak tie: `LiveEq (Gen.f … s) (f … s)` on the states satisfying the invariant, for the runs of the
model that do not end in a defect panic.  Same evaluation and case analysis as `tieNd` (the whole fragment unfolded); at the leaves
the two final states are compared field by field and, for the slots, on the live window only. -/
syntax "tieLive" ident ident : tactic
macro_rules
  | `(tactic| tieLive $h $hnd) =>
  `(tactic| (
     have hsz_ := Inv.size_le $h
     have hst_ := Inv.start_lt $h
     have hcw_ := Inv.cap_lt $h
     revert $hnd
     tieEval [setCell, swapCells, copy, tie_defs]
     try simp (config := { singlePass := true }) (disch := omega) only [tie_arith]
     all_goals (repeat' (first
       | (intro _; exact LiveEq.refl _)
       | (show NonDefect (Except.error _, _).fst → _; intro hnd_; simp [NonDefect, Panic.defect] at hnd_; done)
       | (show NonDefect (Except.ok _, _).fst → _; intro _)
       | (intro hnd_; exfalso; simp only [NonDefect, Panic.defect] at hnd_; done)
       | ifsplit1 | itemsUnify | liveReads $h | esplit1
       | (simp only [setCell, swapCells, copy, tie_res])
       | split))
     all_goals (try subst_vars)
     all_goals (try (intro _))
     all_goals (try (exact LiveEq.refl _))
     all_goals (try (unfold LiveEq; dsimp only; refine ⟨?_, ?_, ?_, ?_, ?_, ?_, ?_, ?_, ?_⟩))
     all_goals (try rfl)
     all_goals (try omega)
     all_goals (try (
       intro i_ hi_
       simp only [setCell, copy, swapCells]
       try simp (disch := omega) only [phys_ite]
       repeat' (first | rfl | (exfalso; omega) | ifsplit1 | itemsUnify | liveReads $h | (congr 1; omega))))
     -- (the same for a leaf that has no `∀ i` in front)
     all_goals (try (simp only [setCell, copy, swapCells]
                     repeat' (first | rfl | (exfalso; omega) | ifsplit1 | itemsUnify | liveReads $h | (congr 1; omega))))
     done))

end CircBuf

import CircBuf.Lemmas.Basic
/-!
  Evaluation ("run") lemmas for the primitive steps and private helpers, and the `mrun` tactic that
  evaluates a method body to an explicit post-state, discharging every arithmetic side condition
  (`debug_assert!`s, overflow checks, bounds checks) with `omega`; the monad laws; and the primitive steps
  once more on an arbitrary state, the check being part of the result (what the tie tactics rewrite with).

  The evaluation rules are pre-rewrites (`↓`): `simp` then follows the control flow — a `bind` is run before
  its continuation is looked at, an `if` is decided before its branches are.  Bottom-up, every
  continuation would first be normalised under its binder and both branches of every `if` visited, with
  `omega` called on conditions it cannot decide; that costs twenty times as much.
-/
namespace CircBuf

theorem dassert_decide (p : Prop) [Decidable p] (msg : String) (h : p) :
    dassert (decide p) msg = (pure () : M Unit) := by simp [h]
theorem uadd_ok (x y : Nat) (h : x + y < W) : uadd x y = .ok (x + y) := by simp [uadd, h]
theorem usub_ok (x y : Nat) (h : y ≤ x) : usub x y = .ok (x - y) := by simp [usub, h]
theorem checkRange_ok (a b n : Nat) (h : a ≤ b ∧ b ≤ n) : checkRange a b n = (pure () : M Unit) := by
  simp [checkRange, h]

/-- `mrun [ls]`: one `simp only` with the evaluation rules below, the definitions and run equations `ls`, and
`omega` for every side condition.  `omega` sees the local context, so the caller puts the facts a body's checks
need there first (`have hsz := h.size_le`, `have hp := phys_lt …`); the second discharger is for conditions
that mention a field of a structure literal (a post-state written out), which `omega` takes for an atom until
`dsimp only` has projected it. -/
syntax "mrun" "[" Lean.Parser.Tactic.simpLemma,* "]" (Lean.Parser.Tactic.location)? : tactic
macro_rules
  | `(tactic| mrun [$ls,*] $[$loc]?) =>
  `(tactic| simp (disch := (first | omega | (dsimp only; omega))) only
      [↓uadd_ok, ↓usub_ok, ↓amod_run, ↓smod_run, ↓dassert_decide, ↓checkRange_ok, ↓if_pos, ↓if_neg,
       ↓bind_run, ↓pure_run, ↓getBuf_run, ↓setBuf_run, ↓getSys_run, ↓liftE_ok, ↓liftE_err, ↓raise_run,
       ge_iff_le, gt_iff_lt, ite_true, ite_false, or_true, true_or, eq_self, decide_true,
       ↓dassert_true, $ls,*] $[$loc]?)

theorem checkIdx_run (s : Sys) (i : Nat) (h : i < s.buf.cap) : checkIdx i s = (.ok (), s) := by
  mrun [checkIdx]

theorem readInit_run (s : Sys) (i : Nat) (e : Elem) (h : i < s.buf.cap)
    (he : s.buf.items i = some e) : readInit i s = (.ok e, s) := by
  mrun [readInit, checkIdx, he]

theorem writeCell_run (s : Sys) (i : Nat) (e : Elem) (h : i < s.buf.cap) :
    writeCell i e s =
      (.ok (), { s with buf := { s.buf with items := setCell s.buf.items i (some e) } }) := by
  mrun [writeCell, checkIdx]

theorem setSize_run (s : Sys) (n : Nat) :
    setSize n s = (.ok (), { s with buf := { s.buf with size := n } }) := by
  mrun [setSize]

theorem setStart_run (s : Sys) (n : Nat) :
    setStart n s = (.ok (), { s with buf := { s.buf with start := n } }) := by
  mrun [setStart]

theorem setItems_run (s : Sys) (f : Nat → Cell) :
    setItems f s = (.ok (), { s with buf := { s.buf with items := f } }) := by
  mrun [setItems]

theorem incSize_run (s : Sys) (h1 : s.buf.size < s.buf.cap) (h4 : s.buf.cap < W) :
    incSize s = (.ok (), { s with buf := { s.buf with size := s.buf.size + 1 } }) := by
  mrun [incSize, setSize]

theorem decSize_run (s : Sys) (h1 : 0 < s.buf.size) :
    decSize s = (.ok (), { s with buf := { s.buf with size := s.buf.size - 1 } }) := by
  mrun [decSize, setSize]

theorem incStart_run (s : Sys) (h1 : s.buf.start < s.buf.cap) (h4 : s.buf.cap < W) :
    incStart s =
      (.ok (), { s with buf := { s.buf with start := phys s.buf.start s.buf.cap 1 } }) := by
  mrun [incStart, setStart]

theorem decStart_run (s : Sys) (h1 : s.buf.start < s.buf.cap) (h4 : s.buf.cap < W) :
    decStart s =
      (.ok (), { s with buf := { s.buf with start := phys s.buf.start s.buf.cap (s.buf.cap - 1) } }) := by
  mrun [decStart, setStart]

theorem frontSlot_run (s : Sys) (h1 : 0 < s.buf.size) (h3 : s.buf.start < s.buf.cap) :
    frontSlot s = (.ok s.buf.start, s) := by
  mrun [frontSlot, checkIdx]

theorem backSlot_run (s : Sys) (h1 : 0 < s.buf.size) (h2 : s.buf.size ≤ s.buf.cap)
    (h3 : s.buf.start < s.buf.cap) (h4 : s.buf.cap < W) :
    backSlot s = (.ok (phys s.buf.start s.buf.cap (s.buf.size - 1)), s) := by
  have hp := phys_lt s.buf.start s.buf.cap (s.buf.size - 1) (by omega)
  mrun [backSlot, checkIdx, hp]

theorem getSlot_run (s : Sys) (i : Nat) (h1 : 0 < s.buf.size) (h2 : i < s.buf.cap)
    (h3 : s.buf.start < s.buf.cap) (h4 : s.buf.cap < W) :
    getSlot i s = (.ok (phys s.buf.start s.buf.cap i), s) := by
  have hp := phys_lt s.buf.start s.buf.cap i (by omega)
  mrun [getSlot, checkIdx, hp]

theorem bind_assoc_run {α β γ : Type} (x : M α) (f : α → M β) (g : β → M γ) (s : Sys) :
    ((x >>= f) >>= g) s = (x >>= fun a => f a >>= g) s := by
  simp only [bind_run]
  cases x s with
  | mk r s' => cases r <;> rfl

theorem M.bind_assoc {α β γ : Type} (x : M α) (f : α → M β) (g : β → M γ) :
    (x >>= f) >>= g = x >>= fun a => f a >>= g := funext (bind_assoc_run x f g)

/-- a statement `if c then x` in the middle of a `do` block -/
theorem ite_bind_unit {β : Type} (c : Prop) [Decidable c] (x : M Unit) (k : M β) :
    (if c then x >>= fun _ => k else k) = (if c then x else pure ()) >>= fun _ => k := by
  split <;> rfl

theorem bind_congr_ok {x : M α} {f g : α → M β} {s : Sys}
    (h : ∀ a s', x s = (.ok a, s') → f a s' = g a s') : (x >>= f) s = (x >>= g) s := by
  simp only [bind_run]
  cases hx : x s with
  | mk r s' =>
    cases r with
    | ok a => exact h a s' hx
    | error p => rfl

theorem bind_congr_run {α β : Type} {x y : M α} {f g : α → M β} {s : Sys} (hx : x s = y s)
    (h : ∀ a s', y s = (.ok a, s') → f a s' = g a s') : (x >>= f) s = (y >>= g) s := by
  rw [bind_run, hx]
  exact bind_congr_ok h

/-- the `pure ()` a translated body ends with -/
theorem bind_pure_unit_run (x : M Unit) (s : Sys) : (x >>= fun _ => pure ()) s = x s := by
  rw [bind_run]
  cases x s with
  | mk r s' => cases r <;> rfl

theorem bind_ok {m : M α} {f : α → M β} {s s' : Sys} {b : β} (h : (m >>= f) s = (.ok b, s')) :
    ∃ a s1, m s = (.ok a, s1) ∧ f a s1 = (.ok b, s') := by
  rw [bind_run] at h
  cases hm : m s with
  | mk r s1 =>
    rw [hm] at h
    cases r with
    | ok a => exact ⟨a, s1, rfl, h⟩
    | error p => cases h

section
variable {α β : Type}
theorem dassert_run (c : Bool) (msg : String) (s : Sys) :
    dassert c msg s = if c then (.ok (), s) else (.error (.assert ""), s) := by
  cases c <;> rfl
theorem liftE_run (e : Except Panic α) (s : Sys) :
    liftE e s = match e with | .ok a => (.ok a, s) | .error p => (.error p, s) := rfl
theorem dassert_bind (c : Bool) (msg : String) (f : Unit → M β) (s : Sys) :
    (dassert c msg >>= f) s = if c then f () s else (.error (.assert ""), s) := by
  cases c <;> rfl
theorem liftE_bind (e : Except Panic α) (f : α → M β) (s : Sys) :
    (liftE e >>= f) s = match e with | .ok a => f a s | .error p => (.error p, s) := by
  cases e <;> rfl
theorem getBuf_bind (f : CB → M β) (s : Sys) : (getBuf >>= f) s = f s.buf s := rfl
theorem setBuf_bind (b : CB) (f : Unit → M β) (s : Sys) :
    (setBuf b >>= f) s = f () { s with buf := b } := rfl
theorem pure_bind_run (a : α) (f : α → M β) (s : Sys) : (pure a >>= f) s = f a s := rfl
theorem raise_bind (p : Panic) (f : α → M β) (s : Sys) : ((raise p : M α) >>= f) s = (.error p, s) := rfl
theorem ite_bind (c : Prop) [Decidable c] (x y : M α) (f : α → M β) (s : Sys) :
    ((if c then x else y) >>= f) s = if c then (x >>= f) s else (y >>= f) s := by
  split <;> rfl
theorem liftE_ite_bind (c : Prop) [Decidable c] (v : α) (p : Panic) (f : α → M β) (s : Sys) :
    (liftE (if c then .ok v else .error p) >>= f) s = if c then f v s else (.error p, s) := by
  split <;> rfl
theorem liftE_ite_run (c : Prop) [Decidable c] (v : α) (p : Panic) (s : Sys) :
    liftE (if c then .ok v else .error p) s = if c then (.ok v, s) else (.error p, s) := by
  split <;> rfl
theorem liftE_ite (c : Prop) [Decidable c] (x y : Except Panic α) :
    liftE (if c then x else y) = if c then liftE x else liftE y := by
  split <;> rfl
theorem liftE_ok_eq (a : α) : liftE (Except.ok a) = (pure a : M α) := rfl
theorem liftE_pure_eq (a : α) : liftE (pure a : Except Panic α) = (pure a : M α) := rfl
theorem liftE_error_eq (p : Panic) : liftE (Except.error p : Except Panic α) = (raise p : M α) := rfl
theorem liftE_bind_dist (e : Except Panic α) (f : α → Except Panic β) :
    liftE (e >>= f) = liftE e >>= fun a => liftE (f a) := by
  cases e <;> rfl
theorem liftE_dassertE (c : Bool) (msg : String) : liftE (dassertE c msg) = dassert c msg := by
  cases c <;> rfl
theorem checkIdx_bind (i : Nat) (f : Unit → M β) (s : Sys) :
    (checkIdx i >>= f) s = if i < s.buf.cap then f () s else (.error .oob, s) := by
  simp only [checkIdx, bind_assoc_run, getBuf_bind]; split <;> rfl
theorem checkIdx_run' (i : Nat) (s : Sys) :
    checkIdx i s = if i < s.buf.cap then (.ok (), s) else (.error .oob, s) := by
  simp only [checkIdx, getBuf_bind]; split <;> rfl
theorem readInit_bind (i : Nat) (f : Elem → M β) (s : Sys) :
    (readInit i >>= f) s = if i < s.buf.cap then
        (match s.buf.items i with | some e => f e s | none => (.error .ub, s))
      else (.error .oob, s) := by
  simp only [readInit, bind_assoc_run, checkIdx_bind, getBuf_bind]
  split
  · cases s.buf.items i <;> rfl
  · rfl
theorem readInit_run' (i : Nat) (s : Sys) :
    readInit i s = if i < s.buf.cap then
        (match s.buf.items i with | some e => (.ok e, s) | none => (.error .ub, s))
      else (.error .oob, s) := by
  simp only [readInit, checkIdx_bind, getBuf_bind]
  split
  · cases s.buf.items i <;> rfl
  · rfl
theorem writeCell_bind (i : Nat) (e : Elem) (f : Unit → M β) (s : Sys) :
    (writeCell i e >>= f) s = if i < s.buf.cap then
        f () { s with buf := { s.buf with items := setCell s.buf.items i (some e) } }
      else (.error .oob, s) := by
  simp only [writeCell, bind_assoc_run, checkIdx_bind, getBuf_bind]
  split <;> rfl
theorem writeCell_run' (i : Nat) (e : Elem) (s : Sys) :
    writeCell i e s = if i < s.buf.cap then
        (.ok (), { s with buf := { s.buf with items := setCell s.buf.items i (some e) } })
      else (.error .oob, s) := by
  simp only [writeCell, checkIdx_bind, getBuf_bind]
  split <;> rfl
/-- reading the same slot twice in a row (`assume_init_mut()` followed by `mem::replace`) is reading it once -/
theorem readInit_twice (i : Nat) (g : Elem → Elem → M β) :
    (readInit i >>= fun a => readInit i >>= fun b => g a b) = (readInit i >>= fun a => g a a) := by
  funext s
  simp only [readInit_bind]
  split
  · split <;> simp_all
  · rfl
theorem dropInPlace_nil : dropInPlace [] = (pure () : M Unit) := rfl
theorem range'_zero_len (a : Nat) : List.range' a 0 = [] := rfl
theorem ite_run (c : Prop) [Decidable c] (x y : M α) (s : Sys) :
    (if c then x else y) s = if c then x s else y s := by
  split <;> rfl
end

/-! A step that cannot fail, run as an equation between programs.  Rewriting with these (unlike with
`bind_run`) evaluates the straight-line part of a body and leaves the comparisons after it standing,
to be folded by `eqElems_append`. -/
section
variable {α β : Type}
theorem getBuf_bind_eq (f : CB → M β) : (getBuf >>= f) = fun s => f s.buf s := rfl
theorem liftE_bind_eq {e : Except Panic α} {a : α} (h : e = .ok a) (f : α → M β) :
    (liftE e >>= f) = f a := by subst h; rfl
theorem pure_bind_eq (a : α) (f : α → M β) : (pure a >>= f) = f a := rfl
end

/-- `m` never changes the buffer, whatever it returns (normally or by panicking) -/
def PB (m : M α) : Prop := ∀ s, (m s).2.buf = s.buf

theorem PB.pure (a : α) : PB (pure a : M α) := fun _ => rfl
theorem PB.raise (p : Panic) : PB (raise p : M α) := fun _ => rfl
theorem PB.liftE (e : Except Panic α) : PB (liftE e) := by
  intro s; cases e <;> rfl
theorem PB.getBuf : PB getBuf := fun _ => rfl
theorem PB.dassert (c : Bool) (m : String) : PB (dassert c m) := by
  intro s; cases c <;> rfl
theorem PB.bind {m : M α} {f : α → M β} (h1 : PB m) (h2 : ∀ a, PB (f a)) : PB (m >>= f) := by
  intro s
  simp only [bind_run]
  have := h1 s
  cases hm : m s with
  | mk r s' =>
    rw [hm] at this
    cases r with
    | ok a => simp only; rw [h2 a s']; exact this
    | error p => exact this
theorem PB.ite (c : Prop) [Decidable c] {a b : M α} (ha : PB a) (hb : PB b) : PB (if c then a else b) := by
  split <;> assumption
theorem PB.readInit (i : Nat) : PB (readInit i) := by
  intro s; rw [readInit_run']; split
  · split <;> rfl
  · rfl
theorem PB.tryFinally {a : M α} {f : M Unit} (ha : PB a) (hf : PB f) : PB (tryFinally a f) := by
  intro s
  have h1 := ha s
  unfold CircBuf.tryFinally
  cases hx : a s with
  | mk r s1 =>
    rw [hx] at h1
    have h2 := hf s1
    cases hy : f s1 with
    | mk r2 s2 =>
      rw [hy] at h2
      cases r <;> cases r2 <;> simp only [hy] <;> exact h2.trans h1

end CircBuf

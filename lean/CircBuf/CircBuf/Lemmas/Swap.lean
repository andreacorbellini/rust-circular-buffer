import CircBuf.Lemmas.Ops
/-! `swap`, `swap_remove_back`, `swap_remove_front`. -/
namespace CircBuf

theorem swapCells_self (f : Nat → Cell) (i : Nat) : swapCells f i i = f := by
  funext k
  unfold swapCells
  by_cases h : k = i
  · rw [if_pos h, h]
  · rw [if_neg h, if_neg h]

/-- two exchanged cells, read in logical coordinates -/
theorem swapCells_phys (f : Nat → Cell) {s c i j k : Nat} (hs : s < c) (hi : i < c) (hj : j < c)
    (hk : k < c) :
    swapCells f (phys s c i) (phys s c j) (phys s c k) =
      if k = i then f (phys s c j) else if k = j then f (phys s c i) else f (phys s c k) := by
  have hinj : ∀ m, m < c → (phys s c k = phys s c m ↔ k = m) := fun m hm =>
    ⟨phys_inj _ _ _ _ hs hk hm, fun e => e ▸ rfl⟩
  simp only [swapCells, hinj i hi, hinj j hj]

theorem swap_length (xs : List Elem) (i j : Nat) : (Spec.swap xs i j).length = xs.length := by
  unfold Spec.swap
  split <;> simp

theorem swap_getElem (xs : List Elem) (i j k : Nat) (hi : i < xs.length) (hj : j < xs.length)
    (hk : k < xs.length) :
    (Spec.swap xs i j)[k]'(by rw [swap_length]; exact hk) =
      if k = i then xs[j] else if k = j then xs[i] else xs[k] := by
  have hsi : xs[i]? = some xs[i] := List.getElem?_eq_getElem _
  have hsj : xs[j]? = some xs[j] := List.getElem?_eq_getElem _
  simp only [Spec.swap, hsi, hsj, List.getElem_set, eq_comm (a := k)]
  -- `set j` was applied last, so it is asked first: that only matters when `i = j = k`
  by_cases h2 : j = k
  · rw [if_pos h2, if_pos h2]
    split
    · next h1 => cases h1.trans h2.symm; rfl
    · rfl
  · rw [if_neg h2, if_neg h2]

theorem swap_getElem_right (xs : List Elem) (i j : Nat) (hi : i < xs.length) (hj : j < xs.length) :
    (Spec.swap xs i j)[j]'(by rw [swap_length]; exact hj) = xs[i] := by
  rw [swap_getElem xs i j j hi hj hj, if_pos rfl]
  split
  · next h => subst h; rfl
  · rfl

/-- both indexes in range: the two cells are exchanged (`i = j`: nothing happens) -/
theorem swap_run (s : Sys) (i j : Nat) (h : Inv s.buf) (hi : i < s.buf.size) (hj : j < s.buf.size) :
    swap i j s = (.ok (), { s with buf := { s.buf with
      items := swapCells s.buf.items (phys s.buf.start s.buf.cap i) (phys s.buf.start s.buf.cap j) } }) := by
  have hsz := h.size_le
  have hW := h.cap_lt
  have hst := h.start_lt' (by omega)
  by_cases hij : i = j
  · subst hij
    rw [swapCells_self]
    mrun [swap]
  · have hp1 := phys_lt s.buf.start s.buf.cap i (by omega)
    have hp2 := phys_lt s.buf.start s.buf.cap j (by omega)
    mrun [swap, checkIdx_run, setItems_run]

theorem swap_spec (s : Sys) (i j : Nat) (h : Inv s.buf) (hi : i < s.buf.size) (hj : j < s.buf.size) :
    Refines (swap i j) s () (Spec.swap (abs s.buf) i j) := by
  have hlen := abs_length s.buf h
  have hget := abs_getElem s.buf h
  have hsz := h.size_le
  have hst := h.start_lt' (by omega)
  refine .of_run (swap_run s i j h hi hj)
    (inv_abs_of _ _ h.cap_lt (by rw [swap_length, hlen]) hsz (Or.inl hst) fun k hk => ?_) rfl
  rw [swap_length, hlen] at hk
  simp only
  rw [swapCells_phys _ hst (Nat.lt_of_lt_of_le hi hsz) (Nat.lt_of_lt_of_le hj hsz)
      (Nat.lt_of_lt_of_le hk hsz), swap_getElem _ i j k (hlen ▸ hi) (hlen ▸ hj) (hlen ▸ hk)]
  split
  · exact hget j _
  · split
    · exact hget i _
    · exact hget k _

theorem swap_panics_i (s : Sys) (i j : Nat) (hi : ¬ i < s.buf.size) :
    swap i j s = (.error (.doc "swap_i"), s) := by
  mrun [swap]

theorem swap_panics_j (s : Sys) (i j : Nat) (hi : i < s.buf.size) (hj : ¬ j < s.buf.size) :
    swap i j s = (.error (.doc "swap_j"), s) := by
  mrun [swap]

theorem swapRemoveBack_spec (s : Sys) (i : Nat) (h : Inv s.buf) :
    Refines (swapRemoveBack i) s (Spec.swapRemoveBack (abs s.buf) i).2
      (Spec.swapRemoveBack (abs s.buf) i).1 := by
  have hlen := abs_length s.buf h
  by_cases hi : i < s.buf.size
  · have e : swapRemoveBack i s = (swap i (s.buf.size - 1) >>= fun _ => popBack) s := by
      mrun [swapRemoveBack]
    simp only [Spec.swapRemoveBack, hlen, hi, if_true]
    refine .congr e (.bind (swap_spec s i (s.buf.size - 1) h hi (by omega)) fun b' hI ha _ => ?_)
    have hp := popBack_spec { s with buf := b' } hI
    rwa [ha, Spec.popBack, getLast?_eq_of_length _ _ ((swap_length ..).trans hlen) (by omega),
      swap_getElem_right _ _ _ (by omega) (by omega), ← List.getElem?_eq_getElem] at hp
  · simp only [Spec.swapRemoveBack, hlen, hi, if_false]
    exact ⟨s.buf, by mrun [swapRemoveBack], h, rfl, rfl⟩

theorem swapRemoveFront_spec (s : Sys) (i : Nat) (h : Inv s.buf) :
    Refines (swapRemoveFront i) s (Spec.swapRemoveFront (abs s.buf) i).2
      (Spec.swapRemoveFront (abs s.buf) i).1 := by
  have hlen := abs_length s.buf h
  by_cases hi : i < s.buf.size
  · have e : swapRemoveFront i s = (swap i 0 >>= fun _ => popFront) s := by
      mrun [swapRemoveFront]
    simp only [Spec.swapRemoveFront, hlen, hi, if_true]
    refine .congr e (.bind (swap_spec s i 0 h hi (by omega)) fun b' hI ha _ => ?_)
    have hp := popFront_spec { s with buf := b' } hI
    rwa [ha, Spec.popFront, List.head?_eq_getElem?,
      List.getElem?_eq_getElem (by rw [swap_length]; omega),
      swap_getElem_right _ _ _ (by omega) (by omega), ← List.getElem?_eq_getElem] at hp
  · simp only [Spec.swapRemoveFront, hlen, hi, if_false]
    exact ⟨s.buf, by mrun [swapRemoveFront], h, rfl, rfl⟩
end CircBuf

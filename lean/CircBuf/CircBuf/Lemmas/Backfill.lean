import CircBuf.Lemmas.Ops
/-! The back-fill loop of `Drain::drop`: one iteration evaluated once, under the invariant of the loop state
(`backfillStep_run`); the loop as iterations of it (`backfillLoop_succ`); and what the whole loop does, for every
capacity, front position, hole and tail. -/
namespace CircBuf

theorem CSP.add_run (p : CSP) (inc : Nat) (s : Sys) (h1 : p.offset < p.sliceLen)
    (h2 : inc ≤ p.sliceLen) (h3 : p.sliceLen < W) :
    p.add inc s = (.ok ⟨p.sliceLen, phys p.offset p.sliceLen inc⟩, s) := by
  mrun [CSP.add]

theorem CSP.availableLen_run (p : CSP) (s : Sys) (h1 : p.offset < p.sliceLen) :
    p.availableLen s = (.ok (p.sliceLen - p.offset), s) := by
  mrun [CSP.availableLen]

theorem CSP.ptr_run (p : CSP) (s : Sys) (h1 : p.offset < p.sliceLen) :
    p.ptr s = (.ok p.offset, s) := by
  mrun [CSP.ptr]

/-- the invariant of the loop state: both circular pointers are well formed -/
def LoopOK (x : CSP × CSP × Nat) : Prop :=
  x.1.offset < x.1.sliceLen ∧ x.1.sliceLen < W ∧ x.2.1.offset < x.2.1.sliceLen ∧ x.2.1.sliceLen < W

/-- the number of elements one iteration moves -/
def backfillChunk (x : CSP × CSP × Nat) : Nat :=
  min (min (x.2.1.sliceLen - x.2.1.offset) (x.1.sliceLen - x.1.offset)) x.2.2

theorem backfillStep_run (x : CSP × CSP × Nat) (s : Sys) (hI : LoopOK x) :
    backfillStep x s =
      (.ok (⟨x.1.sliceLen, phys x.1.offset x.1.sliceLen (backfillChunk x)⟩,
            ⟨x.2.1.sliceLen, phys x.2.1.offset x.2.1.sliceLen (backfillChunk x)⟩,
            x.2.2 - backfillChunk x),
        { s with buf := { s.buf with items := copy s.buf.items x.1.offset x.2.1.offset (backfillChunk x) } }) := by
  obtain ⟨h1, h2, h3, h4⟩ := hI
  have hh : backfillChunk x ≤ x.2.1.sliceLen :=
    Nat.le_trans (Nat.min_le_left _ _) (Nat.le_trans (Nat.min_le_left _ _) (Nat.sub_le _ _))
  have hb : backfillChunk x ≤ x.1.sliceLen :=
    Nat.le_trans (Nat.min_le_left _ _) (Nat.le_trans (Nat.min_le_right _ _) (Nat.sub_le _ _))
  have hr : backfillChunk x ≤ x.2.2 := Nat.min_le_right _ _
  unfold backfillChunk at *
  simp only [backfillStep, ↓bind_run, CSP.availableLen_run _ _ h1, CSP.availableLen_run _ _ h3,
    CSP.ptr_run _ _ h1, CSP.ptr_run _ _ h3, ↓getBuf_run, setItems, ↓setBuf_run, ↓pure_run,
    CSP.add_run _ _ _ h3 hh h4, CSP.add_run _ _ _ h1 hb h2, ↓liftE_run, usub_ok _ _ hr]

theorem backfillStep_pres (x : CSP × CSP × Nat) (s : Sys) (x' : CSP × CSP × Nat) (s' : Sys)
    (hI : LoopOK x) (h : backfillStep x s = (.ok x', s')) : LoopOK x' := by
  rw [backfillStep_run x s hI] at h
  obtain ⟨h1, h2, h3, h4⟩ := hI
  simp only [Prod.mk.injEq, Except.ok.injEq] at h
  obtain ⟨hx, _⟩ := h
  subst hx
  exact ⟨phys_lt _ _ _ (by omega), h2, phys_lt _ _ _ (by omega), h4⟩

/-- an iteration of the loop is `backfillStep` on the loop state `(backfill, hole, remaining)` -/
theorem backfillLoop_succ (fuel : Nat) (hole backfill : CSP) (rem : Nat) :
    backfillLoop (fuel + 1) hole backfill rem =
      if rem > 0 then backfillStep (backfill, hole, rem) >>= fun x => backfillLoop fuel x.2.1 x.1 x.2.2
      else pure () := by
  simp only [backfillLoop, backfillStep, M.bind_assoc, pure_bind_eq]

/-- The loop invariant.  `R` elements have to move from logical positions `re ..` to `rs ..`;
`k` of them have moved already.  The loop terminates (fuel `> R - k` suffices), never fails, and moves
the remaining `R - k` elements down by `re - rs`, one chunk that does not wrap per iteration. -/
theorem backfillLoop_shifts (fuel : Nat) (s : Sys) (rs re R k : Nat)
    (hc : 0 < s.buf.cap) (hW : s.buf.cap < W) (hst : s.buf.start < s.buf.cap)
    (hrs : rs ≤ re) (hR : re + R ≤ s.buf.cap) (hk : k ≤ R) (hfuel : R - k < fuel) :
    ∃ f', backfillLoop fuel ⟨s.buf.cap, phys s.buf.start s.buf.cap (rs + k)⟩
        ⟨s.buf.cap, phys s.buf.start s.buf.cap (re + k)⟩ (R - k) s =
        (.ok (), { s with buf := { s.buf with items := f' } }) ∧
      Shifts s.buf.start s.buf.cap s.buf.items f' (rs + k) (rs + R) (re - rs) := by
  induction fuel generalizing s k with
  | zero => omega
  | succ fuel ih =>
    by_cases hr : R - k = 0
    · have : k = R := by omega
      subst this
      exact ⟨s.buf.items, by simp only [backfillLoop, hr, Nat.lt_irrefl, if_false]; rfl, Shifts.refl ..⟩
    · have hpos : R - k > 0 := by omega
      have hho := phys_lt s.buf.start s.buf.cap (rs + k) hc
      have hbo := phys_lt s.buf.start s.buf.cap (re + k) hc
      -- the chunk moved in this iteration
      obtain ⟨c, hcdef⟩ : ∃ c, c = min (min (s.buf.cap - phys s.buf.start s.buf.cap (rs + k))
        (s.buf.cap - phys s.buf.start s.buf.cap (re + k))) (R - k) := ⟨_, rfl⟩
      obtain ⟨f1, hf1⟩ : ∃ f1, f1 = copy s.buf.items (phys s.buf.start s.buf.cap (re + k))
        (phys s.buf.start s.buf.cap (rs + k)) c := ⟨_, rfl⟩
      have hstep : backfillLoop (fuel + 1) ⟨s.buf.cap, phys s.buf.start s.buf.cap (rs + k)⟩
          ⟨s.buf.cap, phys s.buf.start s.buf.cap (re + k)⟩ (R - k) s =
          backfillLoop fuel ⟨s.buf.cap, phys s.buf.start s.buf.cap (rs + (k + c))⟩
            ⟨s.buf.cap, phys s.buf.start s.buf.cap (re + (k + c))⟩ (R - (k + c))
            { s with buf := { s.buf with items := f1 } } := by
        rw [backfillLoop_succ, if_pos hpos, bind_run, backfillStep_run _ s ⟨hbo, hW, hho, hW⟩]
        simp only [backfillChunk, ← hcdef, hf1, phys_phys, Nat.add_assoc, Nat.sub_sub]
      -- all that matters of `c` from here on (`omega` is slow with the nested `min` in sight)
      have hc' : 1 ≤ c ∧ c ≤ R - k ∧ phys s.buf.start s.buf.cap (rs + k) + c ≤ s.buf.cap ∧
          phys s.buf.start s.buf.cap (re + k) + c ≤ s.buf.cap := by omega
      clear hcdef
      obtain ⟨f', hrun, hsh⟩ := ih { s with buf := { s.buf with items := f1 } } (k + c) hc hW hst hR
        (by omega) (by omega)
      refine ⟨f', hstep.trans hrun, .trans ?_ hsh (by omega) (by omega) (by omega)⟩
      rw [← Nat.add_assoc, hf1]
      exact copy_shifts _ _ _ _ _ c _ _ hst (by omega) (fun t ht => phys_add_of_lt _ _ _ _ (by omega))
        (fun t ht => by
          rw [show rs + k + (re - rs) = re + k by omega]; exact phys_add_of_lt _ _ _ _ (by omega))

/-- the same in terms of slots: exactly the slots of logical positions `rs+k .. rs+R` are written, and each of
them receives what the corresponding source slot held on entry -/
theorem backfillLoop_spec (fuel : Nat) (s : Sys) (rs re R k : Nat)
    (hc : 0 < s.buf.cap) (hW : s.buf.cap < W) (hst : s.buf.start < s.buf.cap)
    (hrs : rs ≤ re) (hR : re + R ≤ s.buf.cap) (hk : k ≤ R) (hfuel : R - k < fuel) :
    ∃ f', backfillLoop fuel ⟨s.buf.cap, phys s.buf.start s.buf.cap (rs + k)⟩
        ⟨s.buf.cap, phys s.buf.start s.buf.cap (re + k)⟩ (R - k) s =
        (.ok (), { s with buf := { s.buf with items := f' } }) ∧
      (∀ j, k ≤ j → j < R → f' (phys s.buf.start s.buf.cap (rs + j)) =
        s.buf.items (phys s.buf.start s.buf.cap (re + j))) ∧
      (∀ x, (∀ j, k ≤ j → j < R → x ≠ phys s.buf.start s.buf.cap (rs + j)) →
        f' x = s.buf.items x) := by
  obtain ⟨f', hrun, hin, hout⟩ := backfillLoop_shifts fuel s rs re R k hc hW hst hrs hR hk hfuel
  refine ⟨f', hrun, fun j h1 h2 => ?_, fun x hx => ?_⟩
  · rw [hin _ (by omega), if_pos (by omega)]; congr 2; omega
  · by_cases hxc : x < s.buf.cap
    · obtain ⟨i, hi, rfl⟩ := phys_surj _ _ x hst hxc
      rw [hin i hi, if_neg]
      intro ⟨h1, h2⟩
      exact hx (i - rs) (by omega) (by omega) (by rw [show rs + (i - rs) = i by omega])
    · exact hout x (by omega)

end CircBuf

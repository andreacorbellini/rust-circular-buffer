import CircBuf.Lemmas.Clones
/-! `extend_from_slice`: the free segments behind the contents; one segment (`cloneSegment`) either takes
its clones (`Cloned`) or is stopped by a panicking `clone`; the cloning phase is one or two segments; the
whole operation in its three shapes (fits; overwrites part of the front; overwrites everything). -/
namespace CircBuf

/-- length of the free segment that starts right behind the back element -/
def firstFree (b : CB) : Nat :=
  if phys b.start b.cap b.size < b.start then b.start - phys b.start b.cap b.size
  else b.cap - phys b.start b.cap b.size

theorem firstFree_end (b : CB) (h : Inv b) (hc : 0 < b.cap) :
    phys b.start b.cap b.size + firstFree b ≤ b.cap := by
  have hst := h.start_lt' hc
  have hp := phys_lt b.start b.cap b.size hc
  unfold firstFree; split <;> omega

theorem slicesUninitMut_run (s : Sys) (h : Inv s.buf) (hc : 0 < s.buf.cap) :
    ∃ l2, slicesUninitMut s =
      (.ok (⟨phys s.buf.start s.buf.cap s.buf.size, firstFree s.buf⟩, ⟨0, l2⟩), s) := by
  have hsz := h.size_le
  have hW := h.cap_lt
  have hst := h.start_lt' hc
  have hend := firstFree_end s.buf h hc
  unfold firstFree at hend ⊢
  by_cases hlt : phys s.buf.start s.buf.cap s.buf.size < s.buf.start
  · exact ⟨0, by mrun [slicesUninitMut, View.empty]⟩
  · rw [if_neg hlt] at hend
    exact ⟨s.buf.start, by mrun [slicesUninitMut]⟩

/-- `L` written into the first free segment and the first `n` of its elements committed to the
length (`n = L.length`: appended; `n = 0`: the contents are untouched) -/
theorem append_segment (b : CB) (h : Inv b) (hc : 0 < b.cap) (L : List Elem) (n : Nat)
    (hn : n ≤ L.length) (hfit1 : L.length ≤ firstFree b) (hfit2 : b.size + L.length ≤ b.cap) :
    Inv ⟨b.cap, b.size + n, b.start, writeList b.items (phys b.start b.cap b.size) L⟩ ∧
    abs ⟨b.cap, b.size + n, b.start, writeList b.items (phys b.start b.cap b.size) L⟩
      = abs b ++ L.take n := by
  have hlen := abs_length b h
  have hst := h.start_lt' hc
  have hend := firstFree_end b h hc
  have hrun : ∀ k, k < L.length → phys b.start b.cap (b.size + k) = phys b.start b.cap b.size + k :=
    fun k hk => phys_add_of_lt _ _ _ _ (by omega)
  refine inv_abs_of ⟨_, _, _, _⟩ _ h.cap_lt
    (by rw [List.length_append, List.length_take, hlen, Nat.min_eq_left hn])
    (Nat.le_trans (Nat.add_le_add_left hn _) hfit2) (Or.inl hst) fun i hi => ?_
  rw [List.length_append, List.length_take, hlen, Nat.min_eq_left hn] at hi
  by_cases hlo : i < b.size
  · rw [List.getElem_append_left (hlen ▸ hlo), ← abs_getElem b h i (hlen ▸ hlo)]
    exact if_neg (by rw [phys_run_iff hst (by omega) hfit2 hrun]; omega)
  · obtain ⟨k, rfl⟩ := Nat.exists_eq_add_of_le (Nat.le_of_not_lt hlo)
    have hk : k < L.length := by omega
    rw [List.getElem_append_right (hlen ▸ Nat.le_add_right _ _)]
    simp only [hrun k hk, writeList_at _ _ _ _ hk, hlen, Nat.add_sub_cancel_left, List.getElem_take]

/-- once the first free segment is full, the next one has room for the rest -/
theorem firstFree_after (b : CB) (h : Inv b) (hc : 0 < b.cap) (n r : Nat) (hn : n = firstFree b)
    (hfit : b.size + n + r ≤ b.cap) (items' : Nat → Cell) :
    r ≤ firstFree ⟨b.cap, b.size + n, b.start, items'⟩ := by
  have hst := h.start_lt' hc
  unfold firstFree at hn
  by_cases hw : b.start + b.size < b.cap
  · -- the contents do not reach the array end: the next segment starts at cell 0 and ends at `start`
    rw [phys_of_lt _ _ _ hw, if_neg (Nat.not_lt.2 (Nat.le_add_right _ _))] at hn
    have hp : phys b.start b.cap (b.size + n) = 0 := by
      unfold phys
      rw [show b.start + (b.size + n) = b.cap by omega, Nat.mod_self]
    have hr : r ≤ b.start := by omega
    unfold firstFree
    simp only [hp, Nat.sub_zero]
    split
    · exact hr
    · exact Nat.le_trans hr (Nat.le_of_lt hst)
  · -- they do: the first free segment is all the room there is
    rw [phys_of_ge _ _ _ (Nat.le_of_not_lt hw) (by have := h.size_le; omega)] at hn
    have : r = 0 := by split at hn <;> omega
    rw [this]; exact Nat.zero_le _

/-- `s'` is `s` with clones of `src` appended, made by `src.length` calls of `clone` that all
returned: the description `At` of `s'` in terms of `s`, like `Post`, but following an armed fault
counter -/
abbrev Cloned (s s' : Sys) (src : List Elem) : Prop :=
  At s' (abs s.buf ++ cloneList s.kind s.next src) s.buf.cap (cloneLog s.kind s.next src ++ s.log)
    (s.next + cloneCount s.kind src.length) { s.faults with clone := s.faults.clone - src.length } s.kind

theorem Cloned.trans {s s1 s2 : Sys} {a b : List Elem} (c1 : Cloned s s1 a) (c2 : Cloned s1 s2 b) :
    Cloned s s2 (a ++ b) where
  inv := c2.inv
  abs_eq := by
    rw [c2.abs_eq, c1.abs_eq, c1.kind_eq, c1.next_eq, cloneList_append, List.append_assoc]
  cap_eq := c2.cap_eq.trans c1.cap_eq
  log_eq := by
    rw [c2.log_eq, c1.log_eq, c1.kind_eq, c1.next_eq, cloneLog_append, List.append_assoc]
  next_eq := by
    rw [c2.next_eq, c1.next_eq, c1.kind_eq, List.length_append, cloneCount_add, Nat.add_assoc]
  faults_eq := by rw [c2.faults_eq, c1.faults_eq, List.length_append, Nat.sub_sub]
  kind_eq := c2.kind_eq.trans c1.kind_eq

theorem Cloned.post {s s' : Sys} {src : List Elem} (c : Cloned s s' src) (hf : s.faults.clone = 0) :
    Post s s' (abs s.buf ++ cloneList s.kind s.next src) (cloneLog s.kind s.next src)
      (cloneCount s.kind src.length) :=
  ⟨c.inv, c.abs_eq, c.cap_eq, c.log_eq, c.next_eq, c.faults_eq.trans (Faults.clone_sub_of_zero _ _ hf),
    c.kind_eq⟩

theorem Cloned.size_eq {s s' : Sys} {src : List Elem} (c : Cloned s s' src) (h : Inv s.buf) :
    s'.buf.size = s.buf.size + src.length := by
  rw [← abs_length _ c.inv, c.abs_eq, List.length_append, abs_length _ h, cloneList_length]

/-- what `extend_from_slice` does with one free segment: clone into it, then commit the length -/
def cloneSegment (off n : Nat) (src : List Elem) : M Unit := do
  writeCloned ⟨off, n⟩ src
  let b ← getBuf
  let m ← liftE (uadd b.size n)
  setSize m

theorem cloneIntoFree_eq (other : List Elem) : cloneIntoFree other = (do
    let (right, _) ← slicesUninitMut
    let writeLen := min right.len other.length
    cloneSegment right.off writeLen (other.take writeLen)
    let other' := other.drop writeLen
    if other'.length ≠ 0 then do
      let (left, _) ← slicesUninitMut
      dassert (decide (left.len ≥ other'.length))
      cloneSegment left.off other'.length other'
    else pure ()) := by
  simp only [cloneIntoFree, cloneSegment, M.bind_assoc]

/-- the armed call of `clone` (if any) is beyond this segment: the clones are appended; and if
they fill the segment, the next free segment has room for whatever the buffer has room for -/
theorem cloneSegment_passes (s : Sys) (src : List Elem) (n : Nat) (hn : n = src.length)
    (h : Inv s.buf) (hc : 0 < s.buf.cap) (hcl : s.faults.clone = 0 ∨ n < s.faults.clone)
    (hfit1 : n ≤ firstFree s.buf) (hfit2 : s.buf.size + n ≤ s.buf.cap) :
    ∃ s', cloneSegment (phys s.buf.start s.buf.cap s.buf.size) n src s = (.ok (), s') ∧
      Cloned s s' src ∧
      (n = firstFree s.buf → ∀ r, s.buf.size + n + r ≤ s.buf.cap → r ≤ firstFree s'.buf) := by
  subst hn
  have hW := h.cap_lt
  have hend := firstFree_end s.buf h hc
  have hw := writeCloned_passes ⟨phys s.buf.start s.buf.cap s.buf.size, src.length⟩ src s hcl rfl
    (by simp only; omega)
  have hL := cloneList_length s.kind s.next src
  obtain ⟨hI, hA⟩ := append_segment s.buf h hc (cloneList s.kind s.next src) src.length
    (by omega) (by omega) (by omega)
  rw [List.take_of_length_le (by omega)] at hA
  refine ⟨_, by mrun [cloneSegment, hw, Sys.cloned]; rfl, ?_, ?_⟩
  · exact ⟨hI, hA, rfl, rfl, rfl, rfl, rfl⟩
  · exact fun hfull r hr => firstFree_after s.buf h hc _ r hfull hr _

/-- the `k+1`-th call of `clone` in this segment panics: the contents are as before, the `k` clones made
were destroyed -/
theorem cloneSegment_fault (s : Sys) (src : List Elem) (n k : Nat) (hn : n = src.length)
    (h : Inv s.buf) (hc : 0 < s.buf.cap) (hk : s.faults.clone = k + 1) (hkn : k < n)
    (hd : s.faults.drop = 0) (hfit1 : n ≤ firstFree s.buf) (hfit2 : s.buf.size + n ≤ s.buf.cap) :
    ∃ s', cloneSegment (phys s.buf.start s.buf.cap s.buf.size) n src s
        = (.error (.user "clone"), s') ∧
      Inv s'.buf ∧ s'.buf.cap = s.buf.cap ∧ abs s'.buf = abs s.buf ∧
      s'.log = dropEvents s.kind (cloneList s.kind s.next (src.take k)) ++
        (cloneLog s.kind s.next (src.take k) ++ s.log) := by
  subst hn
  have hend := firstFree_end s.buf h hc
  have hw := writeCloned_fault ⟨phys s.buf.start s.buf.cap s.buf.size, src.length⟩ src s k hk hkn
    hd rfl (by simp only; omega)
  have hL : (cloneList s.kind s.next (src.take k)).length = k := by
    rw [cloneList_length, List.length_take]; omega
  obtain ⟨hI, hA⟩ := append_segment s.buf h hc (cloneList s.kind s.next (src.take k)) 0
    (by omega) (by omega) (by omega)
  rw [List.take_zero, List.append_nil] at hA
  refine ⟨_, by mrun [cloneSegment, hw]; rfl, ?_⟩
  exact ⟨hI, rfl, hA, rfl⟩

theorem cloneIntoFree_runs (s : Sys) (other : List Elem) (h : Inv s.buf) (hc : 0 < s.buf.cap)
    (hf : s.faults.clone = 0) (hfit : s.buf.size + other.length ≤ s.buf.cap) :
    Runs (cloneIntoFree other) s () (abs s.buf ++ cloneList s.kind s.next other)
      (cloneLog s.kind s.next other) (cloneCount s.kind other.length) := by
  obtain ⟨l2, hsl⟩ := slicesUninitMut_run s h hc
  generalize hwl : min (firstFree s.buf) other.length = wl at *
  have hw1 : wl ≤ firstFree s.buf := hwl ▸ Nat.min_le_left _ _
  have hw2 : wl ≤ other.length := hwl ▸ Nat.min_le_right _ _
  obtain ⟨s1, hr1, c1, hnext⟩ := cloneSegment_passes s (other.take wl) wl
    (List.length_take_of_le hw2).symm h hc (Or.inl hf) hw1 (Nat.le_trans (Nat.add_le_add_left hw2 _) hfit)
  unfold Runs
  rw [cloneIntoFree_eq]
  mrun [hsl, hwl, hr1]
  by_cases hrest : (other.drop wl).length = 0
  · have hall : other.take wl = other :=
      List.take_of_length_le (Nat.le_of_sub_eq_zero (List.length_drop ▸ hrest))
    exact ⟨s1, by mrun [], hall ▸ c1.post hf⟩
  · have hc1 : 0 < s1.buf.cap := c1.cap_eq ▸ hc
    obtain ⟨l3, hsl2⟩ := slicesUninitMut_run s1 c1.inv hc1
    have hdl : wl + (other.drop wl).length = other.length := by rw [List.length_drop]; omega
    have hroom := hnext (by omega) (other.drop wl).length (by omega)
    obtain ⟨s2, hr2, c2, _⟩ := cloneSegment_passes s1 (other.drop wl) _ rfl c1.inv hc1
      (Or.inl (by rw [c1.faults_eq, hf]; exact Nat.zero_sub _)) hroom
      (by rw [c1.size_eq h, c1.cap_eq, List.length_take_of_le hw2]; omega)
    exact ⟨s2, by mrun [hsl2, hr2],
      List.take_append_drop wl other ▸ (c1.trans c2).post hf⟩

/-- **`extend_from_slice`**, every capacity, layout and slice length.  Only the last `cap` elements
of the slice are cloned (`src`, as the crate documents); the front of the contents is evicted as far
as needed to make room, each evicted element destroyed exactly once, before the first `clone`. -/
theorem extendFromSlice_spec (s : Sys) (other src : List Elem)
    (hsrc : src = other.drop (other.length - s.buf.cap)) (h : Inv s.buf)
    (hd : s.faults.drop = 0) (hcl : s.faults.clone = 0) :
    Runs (extendFromSlice other) s ()
      (Spec.lastN (s.buf.cap - src.length) (abs s.buf) ++ cloneList s.kind s.next src)
      (cloneLog s.kind s.next src ++
        dropEvents s.kind ((abs s.buf).take ((abs s.buf).length - (s.buf.cap - src.length))))
      (cloneCount s.kind src.length) := by
  have hsz := h.size_le
  have hW := h.cap_lt
  have hlen := abs_length s.buf h
  by_cases hc : s.buf.cap = 0
  · obtain rfl : src = [] := by rw [hsrc, hc, Nat.sub_zero, List.drop_length]
    have : abs s.buf = [] := abs_eq_nil _ h (.inl hc)
    refine ⟨s, by mrun [extendFromSlice], ⟨h, ?_, rfl, ?_, ?_, rfl, rfl⟩⟩ <;>
      simp [this, Spec.lastN, cloneList, cloneLog, cloneCount, dropEvents_nil]
  have hst := h.start_lt' (Nat.pos_of_ne_zero hc)
  by_cases hlt : other.length < s.buf.cap
  · obtain rfl : src = other := by rw [hsrc, Nat.sub_eq_zero_of_le (Nat.le_of_lt hlt), List.drop_zero]
    by_cases hm : src.length < s.buf.cap - s.buf.size
    · -- the slice fits behind the contents
      have hroom : s.buf.size + src.length < s.buf.cap := by omega
      obtain ⟨s1, hr1, p1⟩ := cloneIntoFree_runs s src h (Nat.pos_of_ne_zero hc) hcl
        (Nat.le_of_lt hroom)
      have hs1 := p1.size_eq
      rw [List.length_append, hlen, cloneList_length] at hs1
      have hk : (abs s.buf).length ≤ s.buf.cap - src.length :=
        hlen ▸ Nat.le_sub_of_add_le (Nat.le_of_lt hroom)
      rw [Spec.lastN, Nat.sub_eq_zero_of_le hk, List.drop_zero, List.take_zero, dropEvents_nil,
        List.append_nil]
      refine ⟨s1, ?_, p1⟩
      simp only [extendFromSlice, ↓bind_run, ↓getBuf_run, hc, ↓if_false, hst, hsz, hlt, ↓if_true,
        usub_ok _ _ hsz, ↓liftE_ok, hm, uadd_ok _ _ (Nat.lt_trans hroom hW), hr1, hs1,
        decide_true, dassert_true, ↓pure_run]
    · -- the front is evicted first
      obtain ⟨b1, hr1, hI1, hA1, hc1⟩ := truncateFront_spec s (s.buf.cap - src.length) h hd
      generalize dropEvents _ _ = evs at hr1 ⊢
      have hs1 : b1.size = s.buf.cap - src.length := by
        rw [← abs_length _ hI1, hA1, lastN_length, hlen]; omega
      have hfull : b1.size + src.length = s.buf.cap := hs1 ▸ Nat.sub_add_cancel (Nat.le_of_lt hlt)
      obtain ⟨s2, hr2, p2⟩ := cloneIntoFree_runs { s with buf := b1, log := evs ++ s.log } src hI1
        (hc1 ▸ Nat.pos_of_ne_zero hc) hcl (Nat.le_of_eq (hfull.trans hc1.symm))
      have hs2 : s2.buf.size = s.buf.cap := by
        rw [p2.size_eq, List.length_append, abs_length _ hI1, cloneList_length]; exact hfull
      refine ⟨s2, ?_, ⟨p2.inv, by rw [p2.abs_eq, hA1], p2.cap_eq.trans hc1,
        by rw [p2.log_eq, List.append_assoc], p2.next_eq, p2.faults_eq, p2.kind_eq⟩⟩
      simp only [extendFromSlice, ↓bind_run, ↓getBuf_run, hc, ↓if_false, hst, hsz, hlt, ↓if_true,
        usub_ok _ _ hsz, ↓liftE_ok, hm, usub_ok _ _ (Nat.le_of_lt hlt), hr1, hr2, hs2,
        decide_true, dassert_true, ↓pure_run]
  · -- everything is replaced by clones of the last `cap` elements of the slice
    have hsl : src.length = s.buf.cap := by rw [hsrc, List.length_drop]; omega
    obtain ⟨b1, hr1, hI1, hA1, hc1⟩ := clear_spec s h hd
    rw [hsl, Nat.sub_self, Nat.sub_zero, List.take_of_length_le (Nat.le_refl _), Spec.lastN,
      Nat.sub_zero, List.drop_length, List.nil_append]
    generalize dropEvents _ _ = evs at hr1 ⊢
    have hw := writeCloned_passes ⟨0, s.buf.cap⟩ src
      { s with buf := { b1 with start := 0 }, log := evs ++ s.log } (Or.inl hcl) hsl.symm
      (Nat.le_of_eq (by rw [Nat.zero_add, hc1]))
    obtain ⟨hI, hA⟩ := inv_abs_of
      ⟨b1.cap, s.buf.cap, 0, writeList b1.items 0 (cloneList s.kind s.next src)⟩
      (cloneList s.kind s.next src) (hc1 ▸ hW) (by rw [cloneList_length, hsl]) (Nat.le_of_eq hc1.symm)
      (Or.inl (hc1 ▸ Nat.pos_of_ne_zero hc : 0 < b1.cap)) (fun i hi => by
        rw [cloneList_length, hsl, ← hc1] at hi
        rw [show phys 0 b1.cap i = 0 + i by rw [phys_zero_left _ _ hi, Nat.zero_add]]
        exact writeList_at _ _ _ i _)
    refine ⟨_, by
      simp only [extendFromSlice, ↓bind_run, ↓getBuf_run, hc, ↓if_false, hst, hsz, hlt, hr1, setStart_run,
        ← hsrc, hsl, decide_true, dassert_true, ↓pure_run, hw, setSize_run, Sys.cloned]
      rfl, ?_⟩
    exact ⟨hI, hA, hc1, (List.append_assoc ..).symm, rfl, Faults.clone_sub_of_zero _ _ hcl, rfl⟩

theorem extendFromSlice_runs (s : Sys) (other : List Elem) (h : Inv s.buf)
    (hd : s.faults.drop = 0) (hcl : s.faults.clone = 0) :
    ∃ evs, Runs (extendFromSlice other) s ()
      (Spec.extend s.buf.cap (abs s.buf)
        (cloneList s.kind s.next (other.drop (other.length - s.buf.cap))))
      evs (cloneCount s.kind (other.drop (other.length - s.buf.cap)).length) :=
  ⟨_, by
    rw [Spec.extend, lastN_append _ _ _ (by rw [cloneList_length, List.length_drop]; omega),
      cloneList_length]
    exact extendFromSlice_spec s other _ rfl h hd hcl⟩

end CircBuf

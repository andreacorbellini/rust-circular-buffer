import Lean
/-! The rule sets of the tie tactics (`Lemmas/TieTac.lean` says what is in them and why). -/

/-- unfold the storage primitives, run the binds of the primitive steps -/
register_simp_attr tie_run
/-- split on the results of fallible arithmetic; re-run after a case split -/
register_simp_attr tie_res
/-- evaluate the index arithmetic from the facts in the context -/
register_simp_attr tie_arith
/-- the definitions of the translated fragment and the model's counterparts -/
register_simp_attr tie_defs

import CircBuf.Lemmas.Tie.Index
import CircBuf.Lemmas.Tie.Access
import CircBuf.Lemmas.Tie.PushPop
import CircBuf.Lemmas.Tie.Swap
import CircBuf.Lemmas.Tie.Truncate
import CircBuf.Lemmas.Tie.Remove
import CircBuf.Lemmas.Tie.IterTie
import CircBuf.Lemmas.Tie.DrainTie
import CircBuf.Lemmas.Tie.Fill
/-!
  The tie between the *translated* core (`Generated/Core.lean`, regenerated from `/repo/src/{lib,iter,drain}.rs` by
  `/verif/translate/t3_core.py` on every run) and the hand-written model (`Model.lean`) the theorems
  of `Props/` are stated about: for every function of the translated fragment, the generated
  definition and the model's definition are the same function `Sys → Except Panic α × Sys`.

  The equalities are stated on the states that satisfy the representation invariant `Inv` — the
  hypothesis of every property theorem.  (On other states the two may differ in *which*
  `debug_assert!` fires first: e.g. the `&self` variants `front_maybe_uninit` / `back_maybe_uninit`
  also assert `size <= N`, which the model's shared helper omits.)

  The proofs do not compare text.  Both sides are evaluated symbolically on an arbitrary state and
  compared branch by branch: first under the invariant, with the index arithmetic evaluated
  (`add_mod`/`sub_mod` by their specification, `+`/`-` without overflow; `tieInv`, for a statement with a
  non-defect hypothesis `tieNd`), then as functions on all states (`tie`).  A rewrite of the source that
  computes the same thing therefore keeps them true (e.g. writing the new back element at
  `add_mod(start, size, N)` before `inc_size()` instead of after it).

  A proof that begins with `first | rfl | …` allows for a body outside the translated subset: `Gen.f` is then
  *defined* as the model's function (`Gen.fallback` lists those), and the tie holds by `rfl`.
-/

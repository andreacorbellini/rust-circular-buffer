import CircBuf.Model
import CircBuf.Lemmas.AddModSpec
/-!
  Invariant, abstraction function and the basic evaluation lemmas.
-/
namespace CircBuf

/-- physical slot of logical position `i` in a buffer with front position `start` and capacity
`cap` (three plain numbers, so that it does not depend on the other fields of a state) -/
def phys (start cap i : Nat) : Nat := (start + i) % cap

/-- the representation invariant of `CircularBuffer`.  (`start_lt`: a buffer of capacity 0 keeps the `start = 0`
that `new()` gave it — no operation moves the front of an empty array.) -/
structure Inv (b : CB) : Prop where
  size_le : b.size ≤ b.cap
  start_lt : b.start < b.cap ∨ (b.cap = 0 ∧ b.start = 0)
  cap_lt : b.cap < W
  live : ∀ i, i < b.size → (b.items (phys b.start b.cap i)).isSome = true

/-- the abstract sequence held by a buffer.  (`filterMap`, not `map`: a cell is an `Option`, and the definition
has to make sense before `Inv.live` says that the cells of the window are all `some`.) -/
def abs (b : CB) : List Elem :=
  (List.range b.size).filterMap (fun i => b.items (phys b.start b.cap i))

/-- logical read -/
def getL (b : CB) (i : Nat) : Cell := b.items (phys b.start b.cap i)

theorem phys_lt (start cap i : Nat) (h : 0 < cap) : phys start cap i < cap := Nat.mod_lt _ h

/-- either no wrap, or exactly one wrap -/
theorem phys_cases (start cap i : Nat) (hs : start < cap) (hi : i ≤ cap) :
    (start + i < cap ∧ phys start cap i = start + i) ∨
    (cap ≤ start + i ∧ phys start cap i = start + i - cap) := by
  unfold phys
  by_cases h : start + i < cap
  · left; exact ⟨h, Nat.mod_eq_of_lt h⟩
  · right
    refine ⟨by omega, ?_⟩
    rw [Nat.mod_eq_sub_mod (by omega)]
    exact Nat.mod_eq_of_lt (by omega)

theorem phys_inj (start cap i j : Nat) (hs : start < cap) (hi : i < cap) (hj : j < cap)
    (h : phys start cap i = phys start cap j) : i = j := by
  rcases phys_cases start cap i hs (by omega) with ⟨a1, a2⟩ | ⟨a1, a2⟩ <;>
  rcases phys_cases start cap j hs (by omega) with ⟨c1, c2⟩ | ⟨c1, c2⟩ <;> omega

theorem amod_run (x y m : Nat) (s : Sys) (hm : 0 < m) (hmW : m < W) (hx : x ≤ m) (hy : y ≤ m) :
    amod x y m s = (.ok (phys x m y), s) := by
  unfold amod phys; rw [addMod_spec x y m hm hmW hx hy]; rfl

theorem smod_run (x y m : Nat) (s : Sys) (hm : 0 < m) (hmW : m < W) (hx : x ≤ m) (hy : y ≤ m) :
    smod x y m s = (.ok (phys x m (m - y)), s) := by
  unfold smod phys; rw [subMod_spec x y m hm hmW hx hy]; rfl

end CircBuf

import CircBuf.Lemmas.Loops
/-! Conservation of elements: every operation of the abstract deque only moves elements between
"in the buffer", "handed to the caller" and "destroyed"; nothing is duplicated, nothing is lost. -/
namespace CircBuf

open List

/-- taking a range out of a list and keeping the rest loses nothing: the statement of which the
single-element removals and the truncations are instances -/
theorem Spec.drain_conserves (xs : List Elem) (a b : Nat) (hab : a ≤ b) :
    xs.Perm ((Spec.drain xs a b).2 ++ (Spec.drain xs a b).1) := by
  unfold Spec.drain
  simp only
  have h1 : xs = xs.take a ++ ((xs.drop a).take (b - a) ++ xs.drop b) := by
    have : xs.drop b = (xs.drop a).drop (b - a) := by rw [List.drop_drop]; congr 1; omega
    rw [this, List.take_append_drop, List.take_append_drop]
  conv => lhs; rw [h1]
  rw [List.append_assoc]
  exact Perm.append_left _ perm_append_comm

theorem Spec.truncate_conserves (xs : List Elem) (n : Nat) :
    xs.Perm (Spec.truncateBack xs n ++ xs.drop n) := by
  simp [Spec.truncateBack]

theorem Spec.truncateFront_conserves (xs : List Elem) (n : Nat) :
    xs.Perm (Spec.truncateFront xs n ++ xs.take (xs.length - n)) := by
  simpa [Spec.drain, Spec.truncateFront, Spec.lastN] using
    Spec.drain_conserves xs 0 (xs.length - n) (Nat.zero_le _)

theorem Spec.remove_conserves (xs : List Elem) (i : Nat) :
    xs.Perm ((Spec.remove xs i).1 ++ (Spec.remove xs i).2.toList) := by
  simpa [Spec.drain, Spec.remove, List.eraseIdx_eq_take_drop_succ, List.take_one, List.head?_drop] using
    Spec.drain_conserves xs i (i + 1) (Nat.le_succ i)

theorem Spec.popFront_conserves (xs : List Elem) :
    xs.Perm ((Spec.popFront xs).1 ++ (Spec.popFront xs).2.toList) := by
  simpa [Spec.remove, Spec.popFront, List.head?_eq_getElem?] using Spec.remove_conserves xs 0

theorem Spec.popBack_conserves (xs : List Elem) :
    xs.Perm ((Spec.popBack xs).1 ++ (Spec.popBack xs).2.toList) := by
  simpa [Spec.remove, Spec.popBack, List.getLast?_eq_getElem?, List.dropLast_eq_take,
    List.eraseIdx_eq_take_drop_succ,
    List.drop_eq_nil_of_le (show xs.length ≤ xs.length - 1 + 1 by omega)] using
    Spec.remove_conserves xs (xs.length - 1)

theorem Spec.swap_perm (xs : List Elem) (i j : Nat) : xs.Perm (Spec.swap xs i j) := by
  unfold Spec.swap
  split
  · next a b hi hj =>
    obtain ⟨hi', rfl⟩ := List.getElem?_eq_some_iff.1 hi
    obtain ⟨hj', rfl⟩ := List.getElem?_eq_some_iff.1 hj
    exact (List.set_set_perm hi' hj').symm
  · exact .refl _

theorem Spec.swapRemoveBack_conserves (xs : List Elem) (i : Nat) :
    xs.Perm ((Spec.swapRemoveBack xs i).1 ++ (Spec.swapRemoveBack xs i).2.toList) := by
  unfold Spec.swapRemoveBack
  by_cases hi : i < xs.length
  · simp only [hi, if_true]
    have hl : (Spec.swap xs i (xs.length - 1)).length = xs.length := swap_length xs i _
    have hp := Spec.popBack_conserves (Spec.swap xs i (xs.length - 1))
    unfold Spec.popBack at hp
    rw [getLast?_eq_of_length _ _ hl (by omega),
      swap_getElem_right xs i (xs.length - 1) hi (by omega)] at hp
    rw [List.getElem?_eq_getElem hi]
    exact (Spec.swap_perm xs i (xs.length - 1)).trans hp
  · simp [hi]

theorem Spec.swapRemoveFront_conserves (xs : List Elem) (i : Nat) :
    xs.Perm ((Spec.swapRemoveFront xs i).1 ++ (Spec.swapRemoveFront xs i).2.toList) := by
  unfold Spec.swapRemoveFront
  by_cases hi : i < xs.length
  · simp only [hi, if_true]
    have hl : (Spec.swap xs i 0).length = xs.length := swap_length xs i _
    have hp := Spec.popFront_conserves (Spec.swap xs i 0)
    unfold Spec.popFront at hp
    rw [List.head?_eq_getElem?, List.getElem?_eq_getElem (by omega),
      swap_getElem_right xs i 0 hi (by omega)] at hp
    rw [List.getElem?_eq_getElem hi]
    exact (Spec.swap_perm xs i 0).trans hp
  · simp [hi]

/-- a push into a full buffer is a push followed by a pop at the other end -/
theorem Spec.pushBack_conserves (cap : Nat) (xs : List Elem) (x : Elem) :
    (xs ++ [x]).Perm ((Spec.pushBack cap xs x).1 ++ (Spec.pushBack cap xs x).2.toList) := by
  unfold Spec.pushBack
  split
  · exact .refl _
  · split
    · simp
    · refine ((Spec.popFront_conserves xs).append_right [x]).trans ?_
      rw [List.append_assoc, List.append_assoc]
      exact Perm.append_left _ perm_append_comm

theorem Spec.pushFront_conserves (cap : Nat) (xs : List Elem) (x : Elem) :
    (x :: xs).Perm ((Spec.pushFront cap xs x).1 ++ (Spec.pushFront cap xs x).2.toList) := by
  unfold Spec.pushFront
  split
  · exact perm_append_comm (l₁ := [x])
  · split
    · simp
    · simpa [Spec.popBack] using (Spec.popBack_conserves xs).cons x

/-- one more step in front of a history: the three tallies (in, out, destroyed) are concatenated, and the
state between the step and the rest cancels -/
theorem perm_tally_step {a g x o d g' r o' d' : List Elem} (h1 : (a ++ g).Perm (x ++ o ++ d))
    (h2 : (x ++ g').Perm (r ++ o' ++ d')) : (a ++ (g ++ g')).Perm (r ++ (o ++ o') ++ (d ++ d')) := by
  refine List.perm_iff_count.mpr fun e => ?_
  have c1 := List.perm_iff_count.mp h1 e
  have c2 := List.perm_iff_count.mp h2 e
  simp only [List.count_append] at c1 c2 ⊢
  omega

/-- a push is one step whose rest is the remaining pushes; nothing is handed out -/
theorem Spec.pushMany_conserves (cap : Nat) (xs ys : List Elem) :
    (xs ++ ys).Perm ((Spec.pushMany cap xs ys).1 ++ (Spec.pushMany cap xs ys).2) := by
  induction ys generalizing xs with
  | nil => simp [Spec.pushMany]
  | cons e rest ih =>
    simpa [Spec.pushMany] using perm_tally_step (g := [e]) (g' := rest) (o := []) (o' := [])
      (by simpa using Spec.pushBack_conserves cap xs e) (by simpa using ih (Spec.pushBack cap xs e).1)

end CircBuf

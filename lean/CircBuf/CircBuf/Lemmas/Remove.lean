import CircBuf.Lemmas.Ops
/-! `remove`: one or three chained memmoves, all capacities, all layouts, all indexes. -/
namespace CircBuf

/-- the storage after `remove(index)`: one memmove when the tail does not wrap, three when it does -/
def removeItems (b : CB) (index : Nat) : Nat → Cell :=
  let idx := phys b.start b.cap index
  let back := phys b.start b.cap (b.size - 1)
  if idx ≤ back then copy b.items (idx + 1) idx (back - idx)
  else copy (copy (copy b.items (idx + 1) idx (b.cap - idx - 1)) 0 (b.cap - 1) 1) 1 0 back

theorem remove_run (s : Sys) (index : Nat) (e : Elem) (h : Inv s.buf) (hi : index < s.buf.size)
    (he : s.buf.items (phys s.buf.start s.buf.cap index) = some e) :
    remove index s = (.ok (some e),
      { s with buf := ⟨s.buf.cap, s.buf.size - 1, s.buf.start, removeItems s.buf index⟩ }) := by
  have hcpos : 0 < s.buf.cap := by have := h.size_le; omega
  obtain ⟨hsz, _, hW, hl⟩ := h
  have hp1 := phys_lt s.buf.start s.buf.cap index hcpos
  by_cases hb : phys s.buf.start s.buf.cap index ≤ phys s.buf.start s.buf.cap (s.buf.size - 1) <;>
    mrun [remove, readInit_run _ _ _ _ he, setItems_run, decSize_run, removeItems]

/-- all layouts: the elements behind `index` have moved one position towards the front -/
theorem removeItems_shifts (b : CB) (index : Nat) (h : Inv b) (hidx : index < b.size) :
    Shifts b.start b.cap b.items (removeItems b index) index (b.size - 1) 1 := by
  have hsz := h.size_le
  have hst := h.start_lt' (by omega)
  unfold removeItems
  by_cases hw : b.start + index < b.cap ∧ b.cap ≤ b.start + (b.size - 1)
  · -- the tail wraps and logical position `k` sits in the last slot: the three memmoves shift positions
    -- `index .. k`, then `k`, then `k + 1 ..` down by one
    -- (`k` behind an equation: `omega` then treats it as one atom in the side conditions below)
    obtain ⟨k, hk⟩ : ∃ k, k = b.cap - 1 - b.start := ⟨_, rfl⟩
    rw [phys_of_lt _ _ index hw.1, phys_of_ge _ _ (b.size - 1) hw.2 (by omega), if_neg (by omega)]
    have h1 := copy_shifts b.items _ _ index 1 (b.cap - (b.start + index) - 1)
        (b.start + index + 1) (b.start + index) hst (by omega) (phys_run ⟨by omega, .inl rfl⟩)
        (phys_run ⟨by omega, .inl (Nat.add_assoc ..).symm⟩)
    have h2 := fun f => copy_shifts f _ _ k 1 1 0 (b.cap - 1) hst (by omega)
        (phys_run ⟨by omega, .inl (by omega)⟩) (phys_run ⟨by omega, .inr (by omega)⟩)
    have h3 := fun f => copy_shifts f _ _ (k + 1) 1 (b.start + (b.size - 1) - b.cap) 1 0 hst (by omega)
        (phys_run ⟨by omega, .inr (by omega)⟩) (phys_run ⟨by omega, .inr (by omega)⟩)
    rw [show index + (b.cap - (b.start + index) - 1) = k by omega] at h1
    rw [show k + 1 + (b.start + (b.size - 1) - b.cap) = b.size - 1 by omega] at h3
    exact (h1.trans (h2 _) (by omega) (by omega) (by omega)).trans (h3 _) (by omega) (by omega) (by omega)
  · -- the tail does not wrap: one memmove
    have hlen : phys b.start b.cap (b.size - 1)
        = phys b.start b.cap index + (b.size - 1 - index) := by
      rcases phys_cases b.start b.cap index hst (by omega) with ⟨a1, a2⟩ | ⟨a1, a2⟩ <;>
      rcases phys_cases b.start b.cap (b.size - 1) hst (by omega) with ⟨b1, b2⟩ | ⟨b1, b2⟩ <;> omega
    have hp := phys_lt b.start b.cap (b.size - 1) (by omega)
    rw [hlen, if_pos (by omega), Nat.add_sub_cancel_left]
    have := copy_shifts b.items _ _ index 1 (b.size - 1 - index) (phys b.start b.cap index + 1)
        (phys b.start b.cap index) hst (by omega) (fun t ht => phys_add_of_lt _ _ _ _ (by omega))
        (fun t ht => by rw [Nat.add_assoc, phys_add_of_lt _ _ _ _ (by omega)]; omega)
    rwa [show index + (b.size - 1 - index) = b.size - 1 by omega] at this

theorem remove_spec (s : Sys) (index : Nat) (h : Inv s.buf) :
    Refines (remove index) s (Spec.remove (abs s.buf) index).2 (Spec.remove (abs s.buf) index).1 := by
  have hlen := abs_length s.buf h
  by_cases hz : s.buf.cap = 0 ∨ s.buf.size ≤ index
  · have hle : (abs s.buf).length ≤ index := by have := h.size_le; omega
    refine ⟨s.buf, ?_, h, ?_, rfl⟩
    · mrun [remove, Spec.remove, List.getElem?_eq_none hle]
    · simp [Spec.remove, List.eraseIdx_of_length_le hle]
  have hidx : index < s.buf.size := by omega
  have hcpos : 0 < s.buf.cap := by omega
  have he := abs_getElem s.buf h index (by omega)
  have hsome : (abs s.buf)[index]? = some ((abs s.buf)[index]'(by omega)) :=
    List.getElem?_eq_getElem _
  simp only [Spec.remove, hsome, List.eraseIdx_eq_take_drop_succ]
  exact .of_run (remove_run s index _ h hidx he)
    ((removeItems_shifts s.buf index h hidx).cut_spec h hcpos (by omega)) rfl

theorem copy_len_zero (f : Nat → Cell) (src dst : Nat) : copy f src dst 0 = f := by
  funext j
  simp only [copy]
  split
  · exfalso; omega
  · rfl

/-- a fact about the hand-written model only: removing the last element is `pop_back` (nothing moves).
A body of `remove` may treat this case separately; the tie then compares that branch with `popBack`
instead of pushing the index `size - 1` through the general three-`copy` case analysis. -/
theorem remove_last_eq_popBack (s : Sys) (h : Inv s.buf) (hpos : 1 ≤ s.buf.size) :
    remove (s.buf.size - 1) s = popBack s := by
  obtain ⟨e, he, hcell⟩ := back_cell s.buf h hpos
  rw [remove_run s _ e h (by omega) hcell, popBack_run s h hpos, he]
  simp only [removeItems, Nat.le_refl, if_true, Nat.sub_self, copy_len_zero, CB.dropBack]

end CircBuf

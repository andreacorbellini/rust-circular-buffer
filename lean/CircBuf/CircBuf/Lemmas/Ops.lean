import CircBuf.Lemmas.Refine
/-!
  `push_*`, `try_push_*`, `pop_*`.  Each operation has its run equations — one per branch of its body,
  with the post-state written out — and the buffers that occur in them (`CB.snoc`, `CB.cons`, …) have one
  lemma each saying that they satisfy the invariant and what they hold.  The refinement lemmas
  (`*_spec`) and the theorems of C02 and C20 are read off from these.
-/
namespace CircBuf

/-- `x` written behind the contents -/
def CB.snoc (b : CB) (x : Elem) : CB :=
  ⟨b.cap, b.size + 1, b.start, setCell b.items (phys b.start b.cap b.size) (some x)⟩

/-- `x` written in front of the contents -/
def CB.cons (b : CB) (x : Elem) : CB :=
  ⟨b.cap, b.size + 1, phys b.start b.cap (b.cap - 1),
    setCell b.items (phys b.start b.cap (b.cap - 1)) (some x)⟩

/-- a full buffer after `push_back`: `x` replaces the front element and the front position advances -/
def CB.rotBack (b : CB) (x : Elem) : CB :=
  ⟨b.cap, b.size, phys b.start b.cap 1, setCell b.items b.start (some x)⟩

/-- a full buffer after `push_front`: `x` replaces the back element and the front position retreats -/
def CB.rotFront (b : CB) (x : Elem) : CB :=
  ⟨b.cap, b.size, phys b.start b.cap (b.cap - 1),
    setCell b.items (phys b.start b.cap (b.size - 1)) (some x)⟩

def CB.dropBack (b : CB) : CB := ⟨b.cap, b.size - 1, b.start, b.items⟩

def CB.dropFront (b : CB) : CB := ⟨b.cap, b.size - 1, phys b.start b.cap 1, b.items⟩

theorem CB.snoc_spec (b : CB) (x : Elem) (h : Inv b) (hroom : b.size < b.cap) :
    Inv (b.snoc x) ∧ abs (b.snoc x) = abs b ++ [x] := by
  have hlen := abs_length b h
  have hst := h.start_lt' (by omega)
  refine inv_abs_of _ _ h.cap_lt (by simp [CB.snoc, hlen]) hroom (Or.inl hst) fun i hi => ?_
  simp only [List.length_append, List.length_singleton, hlen] at hi
  simp only [CB.snoc]
  by_cases hi' : i = b.size
  · subst hi'; simp [← hlen]
  · rw [setCell_ne _ _ _ _ (phys_ne _ _ _ _ hst (by omega) (by omega) hi'),
      List.getElem_append_left (by omega)]
    exact abs_getElem b h i (by omega)

theorem CB.cons_spec (b : CB) (x : Elem) (h : Inv b) (hroom : b.size < b.cap) :
    Inv (b.cons x) ∧ abs (b.cons x) = x :: abs b := by
  have hlen := abs_length b h
  have hst := h.start_lt' (by omega)
  refine inv_abs_of _ _ h.cap_lt (by simp [CB.cons, hlen]) hroom
    (Or.inl (phys_lt _ _ _ (by omega))) fun i hi => ?_
  simp only [List.length_cons, hlen] at hi
  simp only [CB.cons, phys_phys]
  cases i with
  | zero => simp
  | succ i =>
    rw [phys_pred_add _ _ _ (by omega) (by omega), Nat.add_sub_cancel,
      setCell_ne _ _ _ _ (phys_ne _ _ _ _ hst (by omega) (by omega) (by omega))]
    exact abs_getElem b h i (by omega)

theorem CB.dropBack_spec (b : CB) (h : Inv b) (hs : 0 < b.size) :
    Inv b.dropBack ∧ abs b.dropBack = (abs b).dropLast := by
  have := inv_abs_window b h 0 (b.size - 1) (by omega)
  rw [phys_zero _ _ (h.start_lt' (by have := h.size_le; omega)), List.drop_zero] at this
  rwa [List.dropLast_eq_take, abs_length b h]

theorem CB.dropFront_spec (b : CB) (h : Inv b) (hs : 0 < b.size) :
    Inv b.dropFront ∧ abs b.dropFront = (abs b).tail := by
  have := inv_abs_window b h 1 (b.size - 1) (by omega)
  rwa [List.drop_one, List.take_of_length_le (by simp [abs_length b h])] at this

/-- on a full buffer `push_back` leaves what `pop_front` followed by `push_back` would -/
theorem CB.rotBack_spec (b : CB) (x : Elem) (h : Inv b) (hc : 0 < b.cap) (hfull : b.size = b.cap) :
    Inv (b.rotBack x) ∧ abs (b.rotBack x) = (abs b).tail ++ [x] := by
  have e : b.rotBack x = b.dropFront.snoc x := by
    simp only [CB.rotBack, CB.dropFront, CB.snoc, phys_phys]
    rw [Nat.sub_add_cancel (by omega), show 1 + (b.size - 1) = b.cap by omega,
      phys_cap _ _ (h.start_lt' hc)]
  obtain ⟨hI, hA⟩ := b.dropFront_spec h (by omega)
  rw [e, ← hA]
  exact b.dropFront.snoc_spec x hI (by simp only [CB.dropFront]; omega)

/-- … and `push_front` what `pop_back` followed by `push_front` would -/
theorem CB.rotFront_spec (b : CB) (x : Elem) (h : Inv b) (hc : 0 < b.cap) (hfull : b.size = b.cap) :
    Inv (b.rotFront x) ∧ abs (b.rotFront x) = x :: (abs b).dropLast := by
  have e : b.rotFront x = b.dropBack.cons x := by
    simp only [CB.rotFront, CB.dropBack, CB.cons]
    rw [Nat.sub_add_cancel (by omega), hfull]
  obtain ⟨hI, hA⟩ := b.dropBack_spec h (by omega)
  rw [e, ← hA]
  exact b.dropBack.cons_spec x hI (by simp only [CB.dropBack]; omega)

theorem pushBack_zero (s : Sys) (x : Elem) (hc : s.buf.cap = 0) : pushBack x s = (.ok (some x), s) := by
  mrun [pushBack]

theorem pushBack_room (s : Sys) (x : Elem) (h : Inv s.buf) (hroom : s.buf.size < s.buf.cap) :
    pushBack x s = (.ok none, { s with buf := s.buf.snoc x }) := by
  have hst := h.start_lt' (by omega)
  have hW := h.cap_lt
  have hp := phys_lt s.buf.start s.buf.cap s.buf.size (by omega)
  mrun [pushBack, incSize_run, backSlot_run, writeCell_run, Nat.add_sub_cancel, CB.snoc]

theorem pushBack_full (s : Sys) (x : Elem) (h : Inv s.buf) (hc : 0 < s.buf.cap)
    (hfull : s.buf.size = s.buf.cap) :
    pushBack x s = (.ok (abs s.buf).head?, { s with buf := s.buf.rotBack x }) := by
  have hst := h.start_lt' hc
  have hW := h.cap_lt
  obtain ⟨e, he, hcell⟩ := front_cell s.buf h (by omega)
  rw [he]
  mrun [pushBack, frontSlot_run, readInit_run _ _ _ _ hcell, writeCell_run, incStart_run, CB.rotBack]

theorem tryPushBack_room (s : Sys) (x : Elem) (h : Inv s.buf) (hroom : s.buf.size < s.buf.cap) :
    tryPushBack x s = (.ok (.ok ()), { s with buf := s.buf.snoc x }) := by
  have hst := h.start_lt' (by omega)
  have hW := h.cap_lt
  have hp := phys_lt s.buf.start s.buf.cap s.buf.size (by omega)
  mrun [tryPushBack, incSize_run, backSlot_run, writeCell_run, Nat.add_sub_cancel, CB.snoc]

theorem tryPushBack_full (s : Sys) (x : Elem) (hfull : ¬ s.buf.size < s.buf.cap) :
    tryPushBack x s = (.ok (.error x), s) := by
  by_cases hc : s.buf.cap = 0
  · mrun [tryPushBack]
  · mrun [tryPushBack]

theorem pushFront_zero (s : Sys) (x : Elem) (hc : s.buf.cap = 0) : pushFront x s = (.ok (some x), s) := by
  mrun [pushFront]

theorem pushFront_room (s : Sys) (x : Elem) (h : Inv s.buf) (hroom : s.buf.size < s.buf.cap) :
    pushFront x s = (.ok none, { s with buf := s.buf.cons x }) := by
  have hst := h.start_lt' (by omega)
  have hW := h.cap_lt
  have hp := phys_lt s.buf.start s.buf.cap (s.buf.cap - 1) (by omega)
  mrun [pushFront, incSize_run, decStart_run, frontSlot_run, writeCell_run, CB.cons]

theorem pushFront_full (s : Sys) (x : Elem) (h : Inv s.buf) (hc : 0 < s.buf.cap)
    (hfull : s.buf.size = s.buf.cap) :
    pushFront x s = (.ok (abs s.buf).getLast?, { s with buf := s.buf.rotFront x }) := by
  have hst := h.start_lt' hc
  have hW := h.cap_lt
  obtain ⟨e, he, hcell⟩ := back_cell s.buf h (by omega)
  rw [he]
  have hp := phys_lt s.buf.start s.buf.cap (s.buf.size - 1) hc
  mrun [pushFront, backSlot_run, readInit_run _ _ _ _ hcell, writeCell_run, decStart_run, CB.rotFront]

theorem tryPushFront_room (s : Sys) (x : Elem) (h : Inv s.buf) (hroom : s.buf.size < s.buf.cap) :
    tryPushFront x s = (.ok (.ok ()), { s with buf := s.buf.cons x }) := by
  have hst := h.start_lt' (by omega)
  have hW := h.cap_lt
  have hp := phys_lt s.buf.start s.buf.cap (s.buf.cap - 1) (by omega)
  mrun [tryPushFront, incSize_run, decStart_run, frontSlot_run, writeCell_run, CB.cons]

theorem tryPushFront_full (s : Sys) (x : Elem) (hfull : ¬ s.buf.size < s.buf.cap) :
    tryPushFront x s = (.ok (.error x), s) := by
  by_cases hc : s.buf.cap = 0
  · mrun [tryPushFront]
  · mrun [tryPushFront]

theorem popBack_empty (s : Sys) (hz : s.buf.cap = 0 ∨ s.buf.size = 0) : popBack s = (.ok none, s) := by
  mrun [popBack]

theorem popBack_run (s : Sys) (h : Inv s.buf) (hs : 0 < s.buf.size) :
    popBack s = (.ok (abs s.buf).getLast?, { s with buf := s.buf.dropBack }) := by
  have hsz := h.size_le
  have hst := h.start_lt' (by omega)
  have hW := h.cap_lt
  obtain ⟨e, he, hcell⟩ := back_cell s.buf h hs
  rw [he]
  have hp := phys_lt s.buf.start s.buf.cap (s.buf.size - 1) (by omega)
  mrun [popBack, backSlot_run, readInit_run _ _ _ _ hcell, decSize_run, CB.dropBack]

theorem popFront_empty (s : Sys) (hz : s.buf.cap = 0 ∨ s.buf.size = 0) : popFront s = (.ok none, s) := by
  mrun [popFront]

theorem popFront_run (s : Sys) (h : Inv s.buf) (hs : 0 < s.buf.size) :
    popFront s = (.ok (abs s.buf).head?, { s with buf := s.buf.dropFront }) := by
  have hsz := h.size_le
  have hst := h.start_lt' (by omega)
  have hW := h.cap_lt
  obtain ⟨e, he, hcell⟩ := front_cell s.buf h hs
  rw [he]
  mrun [popFront, frontSlot_run, readInit_run _ _ _ _ hcell, decSize_run, incStart_run, CB.dropFront]

theorem pushBack_spec (s : Sys) (x : Elem) (h : Inv s.buf) :
    Refines (pushBack x) s (Spec.pushBack s.buf.cap (abs s.buf) x).2
      (Spec.pushBack s.buf.cap (abs s.buf) x).1 := by
  have hlen := abs_length s.buf h
  unfold Spec.pushBack
  by_cases hc : s.buf.cap = 0
  · simp only [hc, if_true]
    exact ⟨s.buf, pushBack_zero s x hc, h, rfl, rfl⟩
  by_cases hroom : s.buf.size < s.buf.cap
  · simp only [hc, if_false, hlen, hroom, if_true]
    exact .of_run (pushBack_room s x h hroom) (s.buf.snoc_spec x h hroom) rfl
  · have hfull : s.buf.size = s.buf.cap := by have := h.size_le; omega
    simp only [hc, if_false, hlen, hroom]
    exact .of_run (pushBack_full s x h (by omega) hfull) (s.buf.rotBack_spec x h (by omega) hfull) rfl

theorem tryPushBack_spec (s : Sys) (x : Elem) (h : Inv s.buf) :
    Refines (tryPushBack x) s (Spec.tryPushBack s.buf.cap (abs s.buf) x).2
      (Spec.tryPushBack s.buf.cap (abs s.buf) x).1 := by
  unfold Spec.tryPushBack
  rw [abs_length s.buf h]
  by_cases hroom : s.buf.size < s.buf.cap
  · simp only [hroom, if_true]
    exact .of_run (tryPushBack_room s x h hroom) (s.buf.snoc_spec x h hroom) rfl
  · simp only [hroom, if_false]
    exact ⟨s.buf, tryPushBack_full s x hroom, h, rfl, rfl⟩

theorem pushFront_spec (s : Sys) (x : Elem) (h : Inv s.buf) :
    Refines (pushFront x) s (Spec.pushFront s.buf.cap (abs s.buf) x).2
      (Spec.pushFront s.buf.cap (abs s.buf) x).1 := by
  have hlen := abs_length s.buf h
  unfold Spec.pushFront
  by_cases hc : s.buf.cap = 0
  · simp only [hc, if_true]
    exact ⟨s.buf, pushFront_zero s x hc, h, rfl, rfl⟩
  by_cases hroom : s.buf.size < s.buf.cap
  · simp only [hc, if_false, hlen, hroom, if_true]
    exact .of_run (pushFront_room s x h hroom) (s.buf.cons_spec x h hroom) rfl
  · have hfull : s.buf.size = s.buf.cap := by have := h.size_le; omega
    simp only [hc, if_false, hlen, hroom]
    exact .of_run (pushFront_full s x h (by omega) hfull) (s.buf.rotFront_spec x h (by omega) hfull) rfl

theorem tryPushFront_spec (s : Sys) (x : Elem) (h : Inv s.buf) :
    Refines (tryPushFront x) s (Spec.tryPushFront s.buf.cap (abs s.buf) x).2
      (Spec.tryPushFront s.buf.cap (abs s.buf) x).1 := by
  unfold Spec.tryPushFront
  rw [abs_length s.buf h]
  by_cases hroom : s.buf.size < s.buf.cap
  · simp only [hroom, if_true]
    exact .of_run (tryPushFront_room s x h hroom) (s.buf.cons_spec x h hroom) rfl
  · simp only [hroom, if_false]
    exact ⟨s.buf, tryPushFront_full s x hroom, h, rfl, rfl⟩

theorem popBack_spec (s : Sys) (h : Inv s.buf) :
    Refines popBack s (Spec.popBack (abs s.buf)).2 (Spec.popBack (abs s.buf)).1 := by
  unfold Spec.popBack
  by_cases hz : s.buf.cap = 0 ∨ s.buf.size = 0
  · rw [abs_eq_nil s.buf h hz]
    exact ⟨s.buf, popBack_empty s hz, h, abs_eq_nil s.buf h hz, rfl⟩
  · have hs : 0 < s.buf.size := by omega
    exact .of_run (popBack_run s h hs) (s.buf.dropBack_spec h hs) rfl

theorem popFront_spec (s : Sys) (h : Inv s.buf) :
    Refines popFront s (Spec.popFront (abs s.buf)).2 (Spec.popFront (abs s.buf)).1 := by
  unfold Spec.popFront
  by_cases hz : s.buf.cap = 0 ∨ s.buf.size = 0
  · rw [abs_eq_nil s.buf h hz]
    exact ⟨s.buf, popFront_empty s hz, h, abs_eq_nil s.buf h hz, rfl⟩
  · have hs : 0 < s.buf.size := by omega
    exact .of_run (popFront_run s h hs) (s.buf.dropFront_spec h hs) rfl

end CircBuf

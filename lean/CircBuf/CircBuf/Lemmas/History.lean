import CircBuf.Lemmas.Truncate
import CircBuf.Lemmas.Remove
import CircBuf.Lemmas.Contig
import CircBuf.Lemmas.Loops
import CircBuf.Lemmas.Conserve
/-! Histories: any finite sequence of the fourteen core operations, run from a state that satisfies the invariant and
has no destructor panic armed (`Good`), behaves like the same sequence on the abstract deque — by induction, using
the per-operation refinement theorems; and one step conserves the elements (`Spec.step_conserves`; along a history:
`C03_history`). -/
namespace CircBuf

inductive Op where
  | pushBack (x : Elem) | pushFront (x : Elem) | tryPushBack (x : Elem) | tryPushFront (x : Elem)
  | popBack | popFront | remove (i : Nat) | swapRemoveBack (i : Nat) | swapRemoveFront (i : Nat)
  | swap (i j : Nat) | truncateBack (n : Nat) | truncateFront (n : Nat) | clear | makeContiguous

inductive Out where
  | unit
  | elem (o : Option Elem)
  | res (r : Except Elem Unit)
  | panicked (kind : String)

/-- one protocol step of the model -/
def runOp : Op → M Out
  | .pushBack x => do let r ← pushBack x; pure (.elem r)
  | .pushFront x => do let r ← pushFront x; pure (.elem r)
  | .tryPushBack x => do let r ← tryPushBack x; pure (.res r)
  | .tryPushFront x => do let r ← tryPushFront x; pure (.res r)
  | .popBack => do let r ← popBack; pure (.elem r)
  | .popFront => do let r ← popFront; pure (.elem r)
  | .remove i => do let r ← remove i; pure (.elem r)
  | .swapRemoveBack i => do let r ← swapRemoveBack i; pure (.elem r)
  | .swapRemoveFront i => do let r ← swapRemoveFront i; pure (.elem r)
  | .swap i j => do
      match ← attempt (swap i j) with
      | .ok _ => pure .unit
      | .error (.doc k) => pure (.panicked k)
      | .error p => raise p
  | .truncateBack n => do truncateBack n; pure .unit
  | .truncateFront n => do truncateFront n; pure .unit
  | .clear => do clear; pure .unit
  | .makeContiguous => do let _ ← makeContiguous; pure .unit

/-- the same step on the abstract deque -/
def Spec.step (cap : Nat) (xs : List Elem) : Op → List Elem × Out
  | .pushBack x => ((Spec.pushBack cap xs x).1, .elem (Spec.pushBack cap xs x).2)
  | .pushFront x => ((Spec.pushFront cap xs x).1, .elem (Spec.pushFront cap xs x).2)
  | .tryPushBack x => ((Spec.tryPushBack cap xs x).1, .res (Spec.tryPushBack cap xs x).2)
  | .tryPushFront x => ((Spec.tryPushFront cap xs x).1, .res (Spec.tryPushFront cap xs x).2)
  | .popBack => ((Spec.popBack xs).1, .elem (Spec.popBack xs).2)
  | .popFront => ((Spec.popFront xs).1, .elem (Spec.popFront xs).2)
  | .remove i => ((Spec.remove xs i).1, .elem (Spec.remove xs i).2)
  | .swapRemoveBack i => ((Spec.swapRemoveBack xs i).1, .elem (Spec.swapRemoveBack xs i).2)
  | .swapRemoveFront i => ((Spec.swapRemoveFront xs i).1, .elem (Spec.swapRemoveFront xs i).2)
  | .swap i j =>
      if i < xs.length then (if j < xs.length then (Spec.swap xs i j, .unit) else (xs, .panicked "swap_j"))
      else (xs, .panicked "swap_i")
  | .truncateBack n => (Spec.truncateBack xs n, .unit)
  | .truncateFront n => (Spec.truncateFront xs n, .unit)
  | .clear => ([], .unit)
  | .makeContiguous => (xs, .unit)

def Op.given : Op → List Elem
  | .pushBack x => [x] | .pushFront x => [x] | .tryPushBack x => [x] | .tryPushFront x => [x]
  | _ => []

def Out.handed : Out → List Elem
  | .elem (some e) => [e]
  | .res (.error x) => [x]
  | _ => []

/-- the elements an operation destroys -/
def Spec.destroyed (xs : List Elem) : Op → List Elem
  | .truncateBack n => xs.drop n
  | .truncateFront n => xs.take (xs.length - n)
  | .clear => xs
  | _ => []

/-- what the history theorems carry from step to step -/
structure Good (cap : Nat) (s : Sys) : Prop where
  inv : Inv s.buf
  cap_eq : s.buf.cap = cap
  nodrop : s.faults.drop = 0

theorem RefinesL.step {m : M Out} {s : Sys} {o : Out} {xs' : List Elem} {evs : List Event}
    (h : RefinesL m s o xs' evs) (hd : s.faults.drop = 0) :
    ∃ s', m s = (.ok o, s') ∧ Good s.buf.cap s' ∧ abs s'.buf = xs' ∧
      s'.log = evs ++ s.log ∧ s'.kind = s.kind ∧ s'.next = s.next ∧ s'.faults = s.faults := by
  obtain ⟨b', e, i, a, c⟩ := h
  exact ⟨_, e, ⟨i, c, hd⟩, a, rfl, rfl, rfl, rfl⟩

/-- (the ledger as `step_refines` writes it for an operation that destroys nothing, so that `exact` applies) -/
theorem Refines.step {m : M Out} {s : Sys} {o : Out} {xs' : List Elem} (h : Refines m s o xs')
    (hd : s.faults.drop = 0) :
    ∃ s', m s = (.ok o, s') ∧ Good s.buf.cap s' ∧ abs s'.buf = xs' ∧
      s'.log = dropEvents s.kind [] ++ s.log ∧ s'.kind = s.kind ∧ s'.next = s.next ∧
      s'.faults = s.faults := by
  rw [dropEvents_nil]; exact RefinesL.step (evs := []) h hd

theorem runOp_swap (s : Sys) (i j : Nat) (h : Inv s.buf) :
    Refines (runOp (.swap i j)) s (Spec.step s.buf.cap (abs s.buf) (.swap i j)).2
      (Spec.step s.buf.cap (abs s.buf) (.swap i j)).1 := by
  simp only [Spec.step, abs_length s.buf h]
  by_cases hi : i < s.buf.size
  · by_cases hj : j < s.buf.size
    · rw [if_pos hi, if_pos hj]
      obtain ⟨b', e, hb⟩ := swap_spec s i j h hi hj
      exact ⟨b', by simp only [runOp, bind_run, attempt, e, pure_run], hb⟩
    · rw [if_pos hi, if_neg hj]
      exact ⟨s.buf, by simp only [runOp, bind_run, attempt, swap_panics_j s i j hi hj, pure_run], h, rfl,
        rfl⟩
  · rw [if_neg hi]
    exact ⟨s.buf, by simp only [runOp, bind_run, attempt, swap_panics_i s i j hi, pure_run], h, rfl,
      rfl⟩

theorem step_refines (cap : Nat) (s : Sys) (op : Op) (g : Good cap s) :
    ∃ s', runOp op s = (.ok (Spec.step cap (abs s.buf) op).2, s') ∧ Good cap s' ∧
      abs s'.buf = (Spec.step cap (abs s.buf) op).1 ∧
      s'.log = dropEvents s.kind (Spec.destroyed (abs s.buf) op) ++ s.log ∧ s'.kind = s.kind ∧
      s'.next = s.next ∧ s'.faults = s.faults := by
  obtain ⟨h, rfl, hd⟩ := g
  -- for each operation `runOp`, `Spec.step` and `Spec.destroyed` unfold to what its refinement theorem says
  cases op with
  | pushBack x => exact ((pushBack_spec s x h).map Out.elem).step hd
  | pushFront x => exact ((pushFront_spec s x h).map Out.elem).step hd
  | tryPushBack x => exact ((tryPushBack_spec s x h).map Out.res).step hd
  | tryPushFront x => exact ((tryPushFront_spec s x h).map Out.res).step hd
  | popBack => exact ((popBack_spec s h).map Out.elem).step hd
  | popFront => exact ((popFront_spec s h).map Out.elem).step hd
  | remove i => exact ((remove_spec s i h).map Out.elem).step hd
  | swapRemoveBack i => exact ((swapRemoveBack_spec s i h).map Out.elem).step hd
  | swapRemoveFront i => exact ((swapRemoveFront_spec s i h).map Out.elem).step hd
  | swap i j => exact (runOp_swap s i j h).step hd
  | truncateBack n => exact ((truncateBack_spec s n h hd).map fun _ => Out.unit).step hd
  | truncateFront n => exact ((truncateFront_spec s n h hd).map fun _ => Out.unit).step hd
  | clear => exact ((clear_spec s h hd).map fun _ => Out.unit).step hd
  | makeContiguous =>
    obtain ⟨b', v, e, i, a, c, _⟩ := makeContiguous_spec s h
    exact (Refines.map ⟨b', e, i, a, c⟩ fun _ => Out.unit).step hd

/-- run a whole history, collecting the outputs -/
def runOps : List Op → Sys → List Out × Sys
  | [], s => ([], s)
  | op :: rest, s =>
    match runOp op s with
    | (.ok o, s') => let (os, s'') := runOps rest s'; (o :: os, s'')
    | (.error _, s') => ([], s')

def Spec.runOps (cap : Nat) : List Op → List Elem → List Out × List Elem
  | [], xs => ([], xs)
  | op :: rest, xs =>
    let (xs', o) := Spec.step cap xs op
    let (os, xs'') := Spec.runOps cap rest xs'
    (o :: os, xs'')

/-- **every finite history** from a good state produces the outputs and final contents of the
abstract deque, and ends in a good state -/
theorem history_refines (cap : Nat) (ops : List Op) (s : Sys) (g : Good cap s) :
    (runOps ops s).1 = (Spec.runOps cap ops (abs s.buf)).1 ∧
    abs (runOps ops s).2.buf = (Spec.runOps cap ops (abs s.buf)).2 ∧ Good cap (runOps ops s).2 := by
  induction ops generalizing s with
  | nil => exact ⟨rfl, rfl, g⟩
  | cons op rest ih =>
    obtain ⟨s', e, g', a, _, _⟩ := step_refines cap s op g
    obtain ⟨h1, h2, h3⟩ := ih s' g'
    simp only [runOps, e, Spec.runOps]
    rw [a] at h1 h2
    exact ⟨by rw [h1], h2, h3⟩

/-- the ledger entries (newest first) a history produces: the destructions of each step -/
def Spec.histDrops (k : Kind) (cap : Nat) : List Op → List Elem → List Event
  | [], _ => []
  | op :: rest, xs =>
    Spec.histDrops k cap rest (Spec.step cap xs op).1 ++ dropEvents k (Spec.destroyed xs op)

open List

theorem Out.handed_elem (o : Option Elem) : (Out.elem o).handed = o.toList := by cases o <;> rfl

theorem Spec.step_conserves (cap : Nat) (xs : List Elem) (op : Op) :
    (xs ++ op.given).Perm
      ((Spec.step cap xs op).1 ++ (Spec.step cap xs op).2.handed ++ Spec.destroyed xs op) := by
  cases op with
  | pushBack x =>
    simpa [Spec.step, Op.given, Out.handed_elem, Spec.destroyed] using Spec.pushBack_conserves cap xs x
  | pushFront x =>
    simpa [Spec.step, Op.given, Out.handed_elem, Spec.destroyed] using
      (perm_append_comm (l₂ := [x])).trans (Spec.pushFront_conserves cap xs x)
  | tryPushBack x =>
    unfold Spec.step Spec.tryPushBack
    by_cases h : xs.length < cap <;> simp [h, Op.given, Out.handed, Spec.destroyed]
  | tryPushFront x =>
    unfold Spec.step Spec.tryPushFront
    by_cases h : xs.length < cap <;> simp [h, Op.given, Out.handed, Spec.destroyed] <;>
      exact perm_append_comm
  | popBack => simpa [Spec.step, Op.given, Out.handed_elem, Spec.destroyed] using Spec.popBack_conserves xs
  | popFront => simpa [Spec.step, Op.given, Out.handed_elem, Spec.destroyed] using Spec.popFront_conserves xs
  | remove i => simpa [Spec.step, Op.given, Out.handed_elem, Spec.destroyed] using Spec.remove_conserves xs i
  | swapRemoveBack i =>
    simpa [Spec.step, Op.given, Out.handed_elem, Spec.destroyed] using Spec.swapRemoveBack_conserves xs i
  | swapRemoveFront i =>
    simpa [Spec.step, Op.given, Out.handed_elem, Spec.destroyed] using Spec.swapRemoveFront_conserves xs i
  | swap i j =>
    unfold Spec.step
    by_cases hi : i < xs.length
    · by_cases hj : j < xs.length
      · simp [hi, hj, Op.given, Out.handed, Spec.destroyed]; exact Spec.swap_perm xs i j
      · simp [hi, hj, Op.given, Out.handed, Spec.destroyed]
    · simp [hi, Op.given, Out.handed, Spec.destroyed]
  | truncateBack n =>
    simpa [Spec.step, Op.given, Out.handed, Spec.destroyed] using Spec.truncate_conserves xs n
  | truncateFront n =>
    simpa [Spec.step, Op.given, Out.handed, Spec.destroyed] using Spec.truncateFront_conserves xs n
  | clear => simp [Spec.step, Op.given, Out.handed, Spec.destroyed]
  | makeContiguous => simp [Spec.step, Op.given, Out.handed, Spec.destroyed]

/-- everything handed in, handed out and destroyed along a history -/
def Spec.tally (cap : Nat) : List Op → List Elem → List Elem × List Elem × List Elem
  | [], _ => ([], [], [])
  | op :: rest, xs =>
    let t := Spec.tally cap rest (Spec.step cap xs op).1
    (op.given ++ t.1, (Spec.step cap xs op).2.handed ++ t.2.1, Spec.destroyed xs op ++ t.2.2)

end CircBuf

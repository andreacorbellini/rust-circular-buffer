import CircBuf.Lemmas.Views
/-! Reading the whole contents (`iter().cloned()`, `Debug`, `Hash`, `to_vec`) or its two slices
(`as_slices`) as elements, writing through a mutable reference, and the list-level double-ended
consumption lemma. -/
namespace CircBuf

theorem readAll_run (sl : List Nat) (s : Sys)
    (hsl : ∀ i ∈ sl, i < s.buf.cap ∧ (s.buf.items i).isSome = true) :
    readAll sl s = (.ok (sl.filterMap s.buf.items), s) := by
  induction sl with
  | nil => simp [readAll]
  | cons i rest ih =>
    obtain ⟨hi, hsome⟩ := hsl i (by simp)
    obtain ⟨e, he⟩ := Option.isSome_iff_exists.mp hsome
    have := ih (fun j hj => hsl j (by simp [hj]))
    simp only [readAll, bind_run, readInit_run s i e hi he, this, pure_run, List.filterMap_cons, he]

theorem iterSlots_run (s : Sys) (h : Inv s.buf) :
    iterSlots s = (.ok (windowSlots s.buf.start s.buf.cap s.buf.size), s) := by
  obtain ⟨f, k, h1, h2, _⟩ := asSlicesOf_spec s.buf h
  simp only [iterSlots, asSlices, bind_run, getBuf_run, h1, liftE_ok, pure_run, h2]

theorem readAll_window (s : Sys) (h : Inv s.buf) :
    readAll (windowSlots s.buf.start s.buf.cap s.buf.size) s = (.ok (abs s.buf), s) := by
  rw [readAll_run _ s (windowSlots_init _ h), filterMap_windowSlots]

/-- every whole-buffer reader (`iter`, `to_vec`, `Debug`, `Hash`, `clone`) sees exactly `abs` -/
theorem contents_run (s : Sys) (h : Inv s.buf) : contents s = (.ok (abs s.buf), s) := by
  simp only [contents, bind_run, iterSlots_run s h, readAll_window s h]

theorem viewElems_append (b : CB) (f k : View)
    (hs : f.slots ++ k.slots = windowSlots b.start b.cap b.size) :
    viewElems b f ++ viewElems b k = abs b := by
  rw [viewElems, viewElems, ← List.filterMap_append, hs, filterMap_windowSlots]

theorem viewElems_length (b : CB) (v : View)
    (hall : ∀ i ∈ v.slots, (b.items i).isSome = true) : (viewElems b v).length = v.len := by
  rw [viewElems, List.filterMap_length_eq_length.2 hall, View.length_slots]

/-- `as_slices` in terms of elements: the two slices together are the contents, and each holds as
many elements as its view has slots -/
theorem asSlicesOf_elems (b : CB) (h : Inv b) :
    ∃ f k, asSlicesOf b = .ok (f, k) ∧ viewElems b f ++ viewElems b k = abs b ∧
      (viewElems b f).length = f.len ∧ (viewElems b k).length = k.len ∧ f.len + k.len = b.size := by
  obtain ⟨f, k, hsl, hslots, _⟩ := asSlicesOf_spec b h
  have hall := windowSlots_init b h
  rw [← hslots] at hall
  have hlen := congrArg List.length hslots
  rw [List.length_append, windowSlots_length, View.length_slots, View.length_slots] at hlen
  exact ⟨f, k, hsl, viewElems_append b f k hslots,
    viewElems_length b f fun i hi => (hall i (List.mem_append_left _ hi)).2,
    viewElems_length b k fun i hi => (hall i (List.mem_append_right _ hi)).2, hlen⟩

theorem write_spec (b : CB) (h : Inv b) (i : Nat) (hi : i < b.size) (v : Elem) :
    Inv { b with items := setCell b.items (phys b.start b.cap i) (some v) } ∧
    abs { b with items := setCell b.items (phys b.start b.cap i) (some v) } = (abs b).set i v := by
  have hlen := abs_length b h
  have hsz := h.size_le
  have hst := h.start_lt' (by omega)
  refine inv_abs_of _ _ h.cap_lt (by rw [List.length_set, hlen]) hsz (Or.inl hst) fun j hj => ?_
  rw [List.length_set, hlen] at hj
  simp only [List.getElem_set]
  by_cases hji : i = j
  · rw [if_pos hji, hji, setCell_same]
  · rw [if_neg hji, setCell_ne _ _ _ _ (phys_ne _ _ _ _ hst (by omega) (by omega) (Ne.symm hji))]
    exact abs_getElem b h j (by omega)

/-- what is left of `xs` after `f` steps from the front and `b` from the back -/
def leftover (xs : List α) (f b : Nat) : List α := (xs.drop f).take (xs.length - f - b)

theorem leftover_length (xs : List α) (f b : Nat) :
    (leftover xs f b).length = xs.length - f - b := by
  rw [leftover, List.length_take, List.length_drop, Nat.min_eq_left (Nat.sub_le ..)]

theorem leftover_head (xs : List α) (f b : Nat) (h : f + b < xs.length) :
    (leftover xs f b).head? = xs[f]? ∧ (leftover xs f b).tail = leftover xs (f + 1) b := by
  unfold leftover
  constructor
  · rw [List.head?_take, if_neg (by omega), List.head?_drop]
  · rw [← List.drop_one, List.drop_take, List.drop_drop]
    congr 1; omega

theorem leftover_last (xs : List α) (f b : Nat) (h : f + b < xs.length) :
    (leftover xs f b).getLast? = xs[xs.length - 1 - b]? ∧
      (leftover xs f b).dropLast = leftover xs f (b + 1) := by
  have hl := leftover_length xs f b
  constructor
  · rw [List.getLast?_eq_getElem?, hl, leftover, List.getElem?_take_of_lt (by omega),
      List.getElem?_drop]
    congr 1; omega
  · rw [List.dropLast_eq_take, hl, leftover, leftover, List.take_take,
      Nat.min_eq_left (Nat.sub_le ..), Nat.sub_sub]

/-- exhausted: nothing is left once `f + b` reaches the length, so every further call yields `None` -/
theorem leftover_nil (xs : List α) (f b : Nat) (h : xs.length ≤ f + b) : leftover xs f b = [] := by
  rw [leftover, Nat.sub_sub, Nat.sub_eq_zero_of_le h, List.take_zero]

end CircBuf

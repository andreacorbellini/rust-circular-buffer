import CircBuf.Lemmas.Ctor
/-! `fill_spare(value)` and `fill(value)`: clones of the value, the value itself last. -/
namespace CircBuf

/-- the loop of `fill_spare` clones the value once for every free slot but the last -/
theorem fillSpareLoop_eq (fuel : Nat) (s : Sys) (value : Elem) (h : Inv s.buf) (hc0 : 0 < s.buf.cap)
    (hfuel : s.buf.cap - 1 - s.buf.size ≤ fuel) :
    fillSpareLoop fuel value s =
      pushAll (List.replicate (s.buf.cap - 1 - s.buf.size) (cloneElem value)) s := by
  induction fuel generalizing s with
  | zero =>
    rw [Nat.le_zero.1 hfuel]
    mrun [fillSpareLoop, pushAll, List.replicate]
  | succ fuel ih =>
    rw [fillSpareLoop, bind_run, getBuf_run]
    dsimp only
    rw [bind_run, usub_ok _ _ hc0, liftE_ok]
    by_cases hlt : s.buf.size < s.buf.cap - 1
    · rw [show s.buf.cap - 1 - s.buf.size = (s.buf.cap - 1 - s.buf.size - 1) + 1 by omega,
        List.replicate_succ, pushAll]
      simp only [hlt, if_true]
      refine round_congr (PB.cloneElem _) h (by omega) fun s1 hI hc hs => ?_
      rw [ih s1 hI (by omega) (by omega), hc, hs, Nat.sub_add_eq]
    · rw [Nat.sub_eq_zero_of_le (Nat.le_of_not_lt hlt)]
      simp only [hlt, if_false]; rfl
/-- `fill_spare(value)`: a full buffer is left alone (the value is destroyed); otherwise the free
space is filled with clones of the value and the value itself goes last -/
theorem fillSpare_runs (s : Sys) (value : Elem) (h : Inv s.buf) (hd : s.faults.drop = 0)
    (hc : s.faults.clone = 0) :
    ∃ evs, Runs (fillSpare value) s ()
      (if s.buf.size = s.buf.cap then abs s.buf
       else abs s.buf ++ cloneList s.kind s.next (List.replicate (s.buf.cap - 1 - s.buf.size) value) ++ [value])
      evs (if s.buf.size = s.buf.cap then 0 else cloneCount s.kind (s.buf.cap - 1 - s.buf.size)) := by
  have hsz := h.size_le
  have hlen := abs_length s.buf h
  by_cases hfull : s.buf.cap = 0 ∨ s.buf.size = s.buf.cap
  · have hf : s.buf.size = s.buf.cap := by omega
    simp only [hf, if_true]
    refine ⟨dropEvents s.kind [value], { s with log := dropEvents s.kind [value] ++ s.log }, ?_,
      ⟨h, rfl, rfl, rfl, rfl, rfl, rfl⟩⟩
    mrun [fillSpare, dropElem_run s value hd]
  · have hnf : ¬ s.buf.size = s.buf.cap := by omega
    simp only [hnf, if_false]
    obtain ⟨s1, evs1, r1, a1, _⟩ := pushAll_clones (List.replicate (s.buf.cap - 1 - s.buf.size) value)
      (At.self h) hd (Or.inl hc)
    rw [List.map_replicate, ← fillSpareLoop_eq (s.buf.cap - s.buf.size) s value h (by omega) (by omega)]
      at r1
    have hn : (cloneList s.kind s.next (List.replicate (s.buf.cap - 1 - s.buf.size) value)).length =
        s.buf.cap - 1 - s.buf.size := by rw [cloneList_length, List.length_replicate]
    rw [Faults.clone_sub_of_zero _ _ hc, pushMany_fits _ _ _ (by omega)] at a1
    obtain ⟨s2, r2, a2⟩ := pushDrop_at a1 hd value
    rw [pushBack_fits _ _ _ (by rw [List.length_append]; omega)] at a2
    simp only [bind_run] at r2
    refine ⟨evs1, s2, by simp only [fillSpare, bind_run, getBuf_run, hfull, if_false, onPanic, r1, r2],
      At.post ?_⟩
    simpa [dropEvents_nil] using a2

/-- `fill(value)`: the old contents are destroyed; the buffer is full of clones with the value last
(a zero-capacity buffer just destroys the value) -/
theorem fill_runs (s : Sys) (value : Elem) (h : Inv s.buf) (hd : s.faults.drop = 0)
    (hc : s.faults.clone = 0) :
    ∃ evs, Runs (fill value) s ()
      (if s.buf.cap = 0 then []
       else cloneList s.kind s.next (List.replicate (s.buf.cap - 1) value) ++ [value])
      evs (if s.buf.cap = 0 then 0 else cloneCount s.kind (s.buf.cap - 1)) := by
  obtain ⟨s1, r1, p1⟩ := (clear_spec s h hd).runs
  have hs0 : s1.buf.size = 0 := p1.size_eq
  obtain ⟨evs2, r⟩ := fillSpare_runs s1 value p1.inv (p1.faults_eq ▸ hd) (p1.faults_eq ▸ hc)
  obtain ⟨s2, r2, a2⟩ := p1.at.runs r
  refine ⟨evs2 ++ dropEvents s.kind (abs s.buf), s2, by simp only [fill, bind_run, onPanic, r1, r2],
    At.post ?_⟩
  simpa [p1.abs_eq, p1.cap_eq, p1.kind_eq, p1.next_eq, hs0, List.append_assoc,
    eq_comm (a := 0) (b := s.buf.cap)] using a2

end CircBuf

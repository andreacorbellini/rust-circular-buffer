import CircBuf.Generated.TypeDefs
/-!
# C15 — public types keep their borrow, variance, const and auto-trait contracts

"For all client programs" reduces to finitely many facts of the type definitions and signatures.
They are decided here, by kernel evaluation (`decide +kernel`: plain `decide` has the elaborator evaluate the
instance first and the kernel once more, at three times the work), on the definitions **as translated from the
current source by T2** (`Generated/TypeDefs.lean`), using the variance / auto-trait calculus of
`Types.lean` (the Rust Reference's rules; validated against rustc by the witness programs in
`/verif/witnesses`, each of which names the fact it exercises).
-/
namespace CircBuf.Ty

theorem C15_buffer_covariant : structVariance structs "CircularBuffer" "T" = some .co := by decide +kernel
theorem C15_into_iter_covariant : structVariance structs "IntoIter" "T" = some .co := by decide +kernel
theorem C15_iter_covariant_T : structVariance structs "Iter" "T" = some .co := by decide +kernel
theorem C15_iter_covariant_lt : structVariance structs "Iter" "'a" = some .co := by decide +kernel
theorem C15_iter_mut_invariant_T : structVariance structs "IterMut" "T" = some .inv := by decide +kernel
theorem C15_iter_mut_covariant_lt : structVariance structs "IterMut" "'a" = some .co := by decide +kernel
theorem C15_drain_covariant_T : structVariance structs "Drain" "T" = some .co := by decide +kernel
theorem C15_drain_covariant_lt : structVariance structs "Drain" "'a" = some .co := by decide +kernel

/-! ### auto traits: the same conditions as `[T; N]`, `&[T]`, `&mut [T]` -/
theorem C15_buffer_send : structAuto structs "CircularBuffer" false = some { send := true } := by decide +kernel
theorem C15_buffer_sync : structAuto structs "CircularBuffer" true = some { sync := true } := by decide +kernel
theorem C15_into_iter_send : structAuto structs "IntoIter" false = some { send := true } := by decide +kernel
theorem C15_into_iter_sync : structAuto structs "IntoIter" true = some { sync := true } := by decide +kernel
theorem C15_iter_send : structAuto structs "Iter" false = some { sync := true } := by decide +kernel
theorem C15_iter_sync : structAuto structs "Iter" true = some { sync := true } := by decide +kernel
theorem C15_iter_mut_send : structAuto structs "IterMut" false = some { send := true } := by decide +kernel
theorem C15_iter_mut_sync : structAuto structs "IterMut" true = some { sync := true } := by decide +kernel

/-! ### every view-returning method borrows `self` for as long as the view lives, with the right
mutability -/
def sharedViews : List String :=
  ["iter", "range", "as_slices", "back", "front", "get", "nth_front", "nth_back"]
def exclusiveViews : List String :=
  ["iter_mut", "range_mut", "drain", "make_contiguous", "as_mut_slices", "back_mut", "front_mut",
   "get_mut", "nth_front_mut", "nth_back_mut"]

theorem C15_shared_views :
    sharedViews.all (fun n => (methodSig methods n).any fun m => m.recv = "ref" ∧ m.retBorrowsSelf)
      = true := by decide +kernel

theorem C15_exclusive_views :
    exclusiveViews.all (fun n => (methodSig methods n).any fun m => m.recv = "refmut" ∧ m.retBorrowsSelf)
      = true := by decide +kernel

theorem C15_new_const : (methodSig methods "new").any (fun m => m.isConst ∧ m.recv = "none") = true := by
  decide +kernel

/-- `Iter: Clone` without any bound on `T` -/
theorem C15_iter_clone_unbounded : implBounds impls "Clone" "Iter" = some [] := by decide +kernel

end CircBuf.Ty

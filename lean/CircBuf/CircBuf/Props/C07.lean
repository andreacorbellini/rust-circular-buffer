import CircBuf.Lemmas.Views
import CircBuf.Lemmas.Contig
import CircBuf.Lemmas.Contents
/-!
# C07 — all views of the contents agree; mutable views alias exactly those elements

For every capacity, layout and position (any natural number, so `len`, `len+1`, `usize::MAX` are
ordinary arguments):
* `get`, `nth_front`, `nth_back`, `front`, `back`, indexing return the **slot** `(start+i) mod cap`
  of logical position `i` when `i < len` and `None` (indexing: the documented panic) otherwise, and
  never touch the state; by `C07_slot_holds` that slot holds `(abs b)[i]`; by `C07_slots_distinct`
  different positions have different slots, so mutable references never alias;
* `as_slices` / `as_mut_slices`: the two views, front then back, are exactly the window's slots in
  order; the iterator and every whole-buffer reader (`to_vec`, `Debug`, `Hash`, `clone`) see `abs b`;
* a write through the reference for position `i` yields `(abs b).set i v` and keeps the invariant;
* `make_contiguous` returns one view holding `abs b`, leaves `abs` unchanged, and afterwards the
  window does not wrap (so `as_slices` reports a single slice).
-/
namespace CircBuf

theorem C07_get (s : Sys) (i : Nat) (h : Inv s.buf) :
    get? i s = (.ok (if i < s.buf.size then some (phys s.buf.start s.buf.cap i) else none), s) :=
  get?_run s i h

theorem C07_front (s : Sys) (h : Inv s.buf) :
    front? s = (.ok (if 0 < s.buf.size then some s.buf.start else none), s) := front?_run s h

theorem C07_back (s : Sys) (h : Inv s.buf) :
    back? s = (.ok (if 0 < s.buf.size then some (phys s.buf.start s.buf.cap (s.buf.size - 1))
      else none), s) := back?_run s h

theorem C07_nth_back (s : Sys) (i : Nat) (h : Inv s.buf) :
    nthBack? i s = (.ok (if i < s.buf.size then some (phys s.buf.start s.buf.cap (s.buf.size - 1 - i))
      else none), s) := nthBack?_run s i h

theorem C07_index (s : Sys) (i : Nat) (h : Inv s.buf) :
    index i s = if i < s.buf.size then (.ok (phys s.buf.start s.buf.cap i), s)
      else (.error (.doc "index"), s) := by
  by_cases hi : i < s.buf.size <;> mrun [index, get?_run _ _ h]

theorem C07_slot_holds (b : CB) (h : Inv b) (i : Nat) (hi : i < (abs b).length) :
    b.items (phys b.start b.cap i) = some (abs b)[i] := abs_getElem b h i hi

theorem C07_slots_distinct (b : CB) (h : Inv b) (i j : Nat) (hi : i < b.size) (hj : j < b.size)
    (hij : i ≠ j) : phys b.start b.cap i ≠ phys b.start b.cap j := by
  have := h.size_le
  exact phys_ne _ _ _ _ (h.start_lt' (by omega)) (by omega) (by omega) hij

theorem C07_as_slices (b : CB) (h : Inv b) :
    ∃ f k, asSlicesOf b = .ok (f, k) ∧ f.slots ++ k.slots = windowSlots b.start b.cap b.size ∧
      (k.len ≠ 0 → f.len ≠ 0) := asSlicesOf_spec b h

theorem C07_contents (s : Sys) (h : Inv s.buf) : contents s = (.ok (abs s.buf), s) :=
  contents_run s h

theorem C07_write (b : CB) (h : Inv b) (i : Nat) (hi : i < b.size) (v : Elem) :
    Inv { b with items := setCell b.items (phys b.start b.cap i) (some v) } ∧
    abs { b with items := setCell b.items (phys b.start b.cap i) (some v) } = (abs b).set i v :=
  write_spec b h i hi v

theorem C07_make_contiguous (s : Sys) (h : Inv s.buf) :
    ∃ b' v, makeContiguous s = (.ok v, { s with buf := b' }) ∧ Inv b' ∧ abs b' = abs s.buf ∧
      b'.cap = s.buf.cap ∧ b'.size = s.buf.size ∧
      v.slots = windowSlots b'.start b'.cap b'.size ∧
      (b'.start + b'.size ≤ b'.cap) ∧
      (s.buf.start + s.buf.size ≤ s.buf.cap → b' = s.buf) := makeContiguous_spec s h

end CircBuf

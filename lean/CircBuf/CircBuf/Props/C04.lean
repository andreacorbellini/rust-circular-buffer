import CircBuf.Props.C01
import CircBuf.Lemmas.Cmp
import CircBuf.Lemmas.HistoryFull
/-!
# C04 — unoccupied storage is never observed

Every refinement theorem has the shape "for every state `s` with `Inv s.buf`, the call returns
`.ok (R cap (abs s.buf) args)` and leaves a buffer with `abs = X cap (abs s.buf) args`".  The cells
outside the window are universally quantified there: `Inv` says nothing about them, so they may hold
`none` (never initialised), stale copies of moved-out elements, decoys or copies of live elements.
Consequently (`C04_indep`) two states that agree on capacity and abstract contents — whatever lies in
their unoccupied cells, whatever their front position, whatever history produced them — get the
**same return value** and the **same abstract contents** from the same call, and both end in states
satisfying `Inv`, so this holds for every continuation (induction over histories).  Reading a cell
that holds no element is an error in the model (`Panic.ub`); every theorem yields `.ok`, so no
operation reads one.  The comparison / hashing / formatting results are functions of `abs` by
C13; the element behind a returned reference is `(abs b)[i]` by C07; only the split point of
`as_slices` (and the slot numbers, which are addresses) depend on the layout.
-/
namespace CircBuf

/-- any operation that refines a function of `(capacity, abstract contents)` cannot distinguish two
buffers with the same capacity and contents -/
theorem C04_indep {α : Type} (op : M α) (R : Nat → List Elem → α) (X : Nat → List Elem → List Elem)
    (hspec : ∀ s : Sys, Inv s.buf → Refines op s (R s.buf.cap (abs s.buf)) (X s.buf.cap (abs s.buf)))
    (s1 s2 : Sys) (h1 : Inv s1.buf) (h2 : Inv s2.buf) (hcap : s1.buf.cap = s2.buf.cap)
    (habs : abs s1.buf = abs s2.buf) :
    ∃ r b1 b2, op s1 = (.ok r, { s1 with buf := b1 }) ∧ op s2 = (.ok r, { s2 with buf := b2 }) ∧
      Inv b1 ∧ Inv b2 ∧ abs b1 = abs b2 ∧ b1.cap = b2.cap := by
  obtain ⟨b1, e1, i1, a1, c1⟩ := hspec s1 h1
  obtain ⟨b2, e2, i2, a2, c2⟩ := hspec s2 h2
  rw [← hcap, ← habs] at e2 a2
  exact ⟨_, b1, b2, e1, e2, i1, i2, a1.trans a2.symm, by rw [c1, c2, hcap]⟩

theorem C04_push_back (x : Elem) (s1 s2 : Sys) (h1 : Inv s1.buf) (h2 : Inv s2.buf)
    (hcap : s1.buf.cap = s2.buf.cap) (habs : abs s1.buf = abs s2.buf) :
    ∃ r b1 b2, pushBack x s1 = (.ok r, { s1 with buf := b1 }) ∧
      pushBack x s2 = (.ok r, { s2 with buf := b2 }) ∧
      Inv b1 ∧ Inv b2 ∧ abs b1 = abs b2 ∧ b1.cap = b2.cap :=
  C04_indep (pushBack x) (fun c xs => (Spec.pushBack c xs x).2) (fun c xs => (Spec.pushBack c xs x).1)
    (fun s h => pushBack_spec s x h) s1 s2 h1 h2 hcap habs

theorem C04_push_front (x : Elem) (s1 s2 : Sys) (h1 : Inv s1.buf) (h2 : Inv s2.buf)
    (hcap : s1.buf.cap = s2.buf.cap) (habs : abs s1.buf = abs s2.buf) :
    ∃ r b1 b2, pushFront x s1 = (.ok r, { s1 with buf := b1 }) ∧
      pushFront x s2 = (.ok r, { s2 with buf := b2 }) ∧
      Inv b1 ∧ Inv b2 ∧ abs b1 = abs b2 ∧ b1.cap = b2.cap :=
  C04_indep (pushFront x) (fun c xs => (Spec.pushFront c xs x).2) (fun c xs => (Spec.pushFront c xs x).1)
    (fun s h => pushFront_spec s x h) s1 s2 h1 h2 hcap habs

theorem C04_pop_back (s1 s2 : Sys) (h1 : Inv s1.buf) (h2 : Inv s2.buf)
    (hcap : s1.buf.cap = s2.buf.cap) (habs : abs s1.buf = abs s2.buf) :
    ∃ r b1 b2, popBack s1 = (.ok r, { s1 with buf := b1 }) ∧ popBack s2 = (.ok r, { s2 with buf := b2 }) ∧
      Inv b1 ∧ Inv b2 ∧ abs b1 = abs b2 ∧ b1.cap = b2.cap :=
  C04_indep popBack (fun _ xs => (Spec.popBack xs).2) (fun _ xs => (Spec.popBack xs).1)
    (fun s h => popBack_spec s h) s1 s2 h1 h2 hcap habs

theorem C04_pop_front (s1 s2 : Sys) (h1 : Inv s1.buf) (h2 : Inv s2.buf)
    (hcap : s1.buf.cap = s2.buf.cap) (habs : abs s1.buf = abs s2.buf) :
    ∃ r b1 b2, popFront s1 = (.ok r, { s1 with buf := b1 }) ∧ popFront s2 = (.ok r, { s2 with buf := b2 }) ∧
      Inv b1 ∧ Inv b2 ∧ abs b1 = abs b2 ∧ b1.cap = b2.cap :=
  C04_indep popFront (fun _ xs => (Spec.popFront xs).2) (fun _ xs => (Spec.popFront xs).1)
    (fun s h => popFront_spec s h) s1 s2 h1 h2 hcap habs

theorem C04_remove (i : Nat) (s1 s2 : Sys) (h1 : Inv s1.buf) (h2 : Inv s2.buf)
    (hcap : s1.buf.cap = s2.buf.cap) (habs : abs s1.buf = abs s2.buf) :
    ∃ r b1 b2, remove i s1 = (.ok r, { s1 with buf := b1 }) ∧ remove i s2 = (.ok r, { s2 with buf := b2 }) ∧
      Inv b1 ∧ Inv b2 ∧ abs b1 = abs b2 ∧ b1.cap = b2.cap :=
  C04_indep (remove i) (fun _ xs => (Spec.remove xs i).2) (fun _ xs => (Spec.remove xs i).1)
    (fun s h => remove_spec s i h) s1 s2 h1 h2 hcap habs

theorem C04_swap_remove_back (i : Nat) (s1 s2 : Sys) (h1 : Inv s1.buf) (h2 : Inv s2.buf)
    (hcap : s1.buf.cap = s2.buf.cap) (habs : abs s1.buf = abs s2.buf) :
    ∃ r b1 b2, swapRemoveBack i s1 = (.ok r, { s1 with buf := b1 }) ∧
      swapRemoveBack i s2 = (.ok r, { s2 with buf := b2 }) ∧
      Inv b1 ∧ Inv b2 ∧ abs b1 = abs b2 ∧ b1.cap = b2.cap :=
  C04_indep (swapRemoveBack i) (fun _ xs => (Spec.swapRemoveBack xs i).2)
    (fun _ xs => (Spec.swapRemoveBack xs i).1) (fun s h => swapRemoveBack_spec s i h) s1 s2 h1 h2 hcap habs

/-- equality cannot tell apart layouts or capacities: it is a function of the two `abs` -/
theorem C04_eq (s1 s2 : Sys) (o1 o2 : CB) (h1 : Inv s1.buf) (h2 : Inv s2.buf) (ho1 : Inv o1)
    (ho2 : Inv o2) (hf1 : s1.faults.eq = 0) (hf2 : s2.faults.eq = 0)
    (ha : abs s1.buf = abs s2.buf) (hb : abs o1 = abs o2) :
    (eqBuf o1 s1).1 = (eqBuf o2 s2).1 := by
  obtain ⟨_, e1, _⟩ := eqBuf_spec s1 o1 h1 ho1 hf1
  obtain ⟨_, e2, _⟩ := eqBuf_spec s2 o2 h2 ho2 hf2
  rw [e1, e2, ha, hb]

/-- non-vacuity: two buffers of capacity 2 with equal contents, different front positions and
different junk in the unoccupied cell -/
example : abs (⟨2, 1, 0, fun i => if i = 0 then some ⟨1, 5⟩ else some ⟨900001, 7⟩⟩ : CB)
        = abs (⟨2, 1, 1, fun i => if i = 1 then some ⟨1, 5⟩ else none⟩ : CB) := by
  decide

/-- **two buffers with equal logical contents are indistinguishable under any subsequent operations**:
whatever their front positions, whatever lies in their unoccupied slots and however they were reached,
any finite history over the whole mutator API (user code that does not panic) produces the same
outputs and ends with the same logical contents on both -/
theorem C04_history (cap : Nat) (ops : List OpX) (s1 s2 : Sys) (g1 : GoodX cap s1) (g2 : GoodX cap s2)
    (habs : abs s1.buf = abs s2.buf) (hnext : s1.next = s2.next) :
    (runOpsX ops s1).1 = (runOpsX ops s2).1 ∧
    abs (runOpsX ops s1).2.buf = abs (runOpsX ops s2).2.buf := by
  obtain ⟨a1, b1, _⟩ := C01_history_full cap ops s1 g1
  obtain ⟨a2, b2, _⟩ := C01_history_full cap ops s2 g2
  rw [habs, hnext] at a1 b1
  exact ⟨a1.trans a2.symm, b1.trans b2.symm⟩

end CircBuf

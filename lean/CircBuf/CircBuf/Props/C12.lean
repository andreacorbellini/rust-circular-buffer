import CircBuf.Lemmas.Ctor
import CircBuf.Lemmas.Ops
import CircBuf.Lemmas.ToVec
/-!
# C12 — constructors and conversions give the specified contents, independently owned

* `new` / `default` (and `boxed`, which is `new` behind one allocation): an empty buffer satisfying
  the invariant, for every capacity `< 2^64`;
* `From<[T; M]>` for every `M` (shorter than, equal to, longer than the capacity): the buffer holds
  the **last `cap` elements of the array — the same elements, not copies** — and the other
  `M - cap` are destroyed exactly once (one `dropped` event each, in order);
* `from_iter`: the last `cap` of the produced items;
* `clone`: a new buffer whose contents are `cloneList` of the source's (element-wise clones in
  order: same values, fresh identities `next, next+1, …` for element types that have one, hence
  disjoint from the source's); the source buffer is returned untouched (`s'.buf = s.buf`);
* `clone_from(other)`: the old contents are destroyed, the buffer holds the last `cap` clones of
  `other`'s elements;
* `into_iter` is the buffer itself consumed by `pop_front` / `pop_back` (C01/C08), so collecting it
  returns the original elements in order.
* `to_vec` (`C12_to_vec`): the returned vector is `cloneList` of the contents — element-wise clones,
  oldest first — the buffer itself is only read, and at most one allocation happens;
* `boxed` (`C12_boxed`): an empty valid buffer of the same capacity behind exactly one allocation.
-/
namespace CircBuf

theorem C12_new (cap : Nat) (hc : cap < W) : Inv (CB.new cap) ∧ abs (CB.new cap) = [] :=
  inv_new' cap hc

theorem C12_from_array (s : Sys) (arr : List Elem) (hW : s.buf.cap < W) (hf : s.faults.drop = 0) :
    ∃ b', fromArray arr s = (.ok (), { s with
        buf := b'
        log := dropEvents s.kind (arr.take (arr.length - s.buf.cap)) ++ s.log }) ∧
      Inv b' ∧ abs b' = Spec.lastN s.buf.cap arr ∧ b'.cap = s.buf.cap ∧ b'.start = 0 :=
  fromArray_spec s arr hW hf

/-- `FromIterator`: like pushing the items one by one into a fresh buffer -/
theorem C12_from_iter (m : Nat) (s : Sys) (hW : s.buf.cap < W) (hd : s.faults.drop = 0)
    (hn : s.faults.next = 0) (hk : s.kind = .tracked) :
    ∃ s', fromIter m s = (.ok (), s') ∧ Inv s'.buf ∧ s'.buf.cap = s.buf.cap ∧
      abs s'.buf = Spec.lastN s.buf.cap (newElems s.next m) ∧ s'.next = s.next + m := by
  obtain ⟨s', hrun, p⟩ := extendIter_runs m { s with buf := CB.new s.buf.cap } (inv_new' _ hW).1 hd hn hk
  refine ⟨s', by simp only [fromIter, ↓bind_run, getBuf_run, setBuf_run, onPanic, hrun],
    p.inv, p.cap_eq, ?_, p.next_eq⟩
  rw [p.abs_eq, (inv_new' _ hW).2, pushMany_contents _ _ _ (Nat.zero_le _)]
  rfl

theorem C12_clone (s : Sys) (h : Inv s.buf) (hd : s.faults.drop = 0) (hc : s.faults.clone = 0) :
    ∃ nb s', cloneBuf s = (.ok nb, s') ∧ s'.buf = s.buf ∧ Inv nb ∧ nb.cap = s.buf.cap ∧
      abs nb = cloneList s.kind s.next (abs s.buf) ∧
      s'.next = s.next + cloneCount s.kind (abs s.buf).length := cloneBuf_spec s h hd hc

theorem C12_clone_from (other : List Elem) (s : Sys) (h : Inv s.buf) (hd : s.faults.drop = 0)
    (hc : s.faults.clone = 0) :
    ∃ evs, Runs (cloneFrom other) s () (Spec.lastN s.buf.cap (cloneList s.kind s.next other)) evs
      (cloneCount s.kind other.length) := cloneFrom_runs other s h hd hc

theorem C12_to_vec (s : Sys) (h : Inv s.buf) (hc : s.faults.clone = 0) :
    ∃ s', toVec s = (.ok (cloneList s.kind s.next (abs s.buf)), s') ∧ s'.buf = s.buf ∧
      s'.next = s.next + cloneCount s.kind s.buf.size ∧
      s'.log = cloneLog s.kind s.next (abs s.buf) ++
        ((if s.buf.size > 0 ∧ s.kind ≠ .zst then [Event.alloc] else []) ++ s.log) :=
  toVec_spec s h hc

theorem C12_boxed (s : Sys) (hW : s.buf.cap < W) :
    ∃ s', boxed s = (.ok (), s') ∧ Inv s'.buf ∧ abs s'.buf = [] ∧ s'.buf.cap = s.buf.cap ∧
      s'.log = Event.alloc :: s.log := boxed_spec s hW

/-- clones have the same values, in order … -/
theorem C12_clone_values (n : Nat) (l : List Elem) :
    (cloneList .tracked n l).map (·.val) = l.map (·.val) := by
  induction l generalizing n with
  | nil => rfl
  | cons e rest ih => simp [cloneList, ih]

/-- … and fresh identities `n, n+1, …` -/
theorem C12_clone_ids (n : Nat) (l : List Elem) :
    (cloneList .tracked n l).map (·.id) = List.range' n l.length := by
  induction l generalizing n with
  | nil => rfl
  | cons e rest ih => simp [cloneList, ih, List.range'_succ]

end CircBuf

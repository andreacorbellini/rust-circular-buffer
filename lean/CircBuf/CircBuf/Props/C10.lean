import CircBuf.Lemmas.Drain
/-!
# C10 — leaking a drain is safe

While a drain is alive — after `drain(..)` and any number of `next` / `next_back` steps
(`DrainInv` is preserved by them, C09) — the buffer under it has length 0.  `mem::forget` runs no
code, so after leaking the drain the buffer *is* that state: it satisfies the invariant and is
empty, hence it shares no element with what the drain handed out, it owns nothing that could be
destroyed a second time, and every later operation behaves as on an empty buffer of the same
capacity (all the other theorems apply to it, since they only assume `Inv`).  The length is set to
zero by `Drain.new` itself, before the first element is read (`C09_new`).
-/
namespace CircBuf

theorem C10_forget_safe (b0 : CB) (d : Drain) (s : Sys) (hd : DrainInv b0 d s) :
    Inv s.buf ∧ abs s.buf = [] ∧ s.buf.size = 0 ∧ s.buf.cap = b0.cap := by
  rw [hd.buf_eq]
  obtain ⟨hI, hA⟩ := inv_abs_of ⟨b0.cap, 0, b0.start, b0.items⟩ [] hd.inv0.cap_lt rfl (Nat.zero_le _)
    hd.inv0.start_lt nofun
  exact ⟨hI, hA, rfl, rfl⟩

end CircBuf

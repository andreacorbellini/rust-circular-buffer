import CircBuf.Lemmas.ExtendSlice
import CircBuf.Lemmas.Swap
/-!
# C17 — no operation allocates (model side)

In the model a heap allocation is the ledger event `alloc`; it is emitted by `boxed` and `to_vec`
only.  The refinement theorems make this precise for every other operation:
* every operation with a `Refines` theorem leaves the ledger exactly as it was
  (`C17_refines_no_event`), so it emits no `alloc` (nor any other event);
* the operations with `RefinesL` / `Runs` theorems extend the ledger by `dropEvents`, `cloneLog`,
  `given` events only, none of which is `alloc` (`C17_drop_events`, `C17_clone_log`);
* `boxed` emits exactly one (`C17_boxed`).
This states what the model says; what ties it to the crate is the allocation column of the
correspondence (counting global allocator) and the offline feature builds — see the check.
-/
namespace CircBuf

theorem C17_refines_no_event {α : Type} (op : M α) (s : Sys) (r : α) (xs : List Elem)
    (h : Refines op s r xs) : (op s).2.log = s.log := by
  obtain ⟨b', e, _⟩ := h
  rw [e]

theorem C17_drop_events (k : Kind) (es : List Elem) : Event.alloc ∉ dropEvents k es := by
  unfold dropEvents
  split <;> simp

theorem C17_clone_log (k : Kind) (n : Nat) (es : List Elem) : Event.alloc ∉ cloneLog k n es := by
  induction es generalizing n with
  | nil => simp [cloneLog]
  | cons e rest ih =>
    simp only [cloneLog]
    split
    · simp [ih]
    · exact ih n

theorem C17_boxed (s : Sys) :
    boxed s = (.ok (), { s with buf := CB.new s.buf.cap, log := .alloc :: s.log }) := by
  simp [boxed, emit]

end CircBuf

import CircBuf.Lemmas.AddModSpec
/-!
# C19 — zero-sized elements and extreme capacities

The index helpers `add_mod` / `sub_mod`, **as translated from the current source by T1**, compute
`(x + y) mod m` resp. `(x - y) mod m` for every modulus `0 < m < 2^64` — including
`m = usize::MAX` and the inputs for which `x + y` exceeds the machine word — and none of their
`debug_assert!`s, additions, multiplications or remainders fails.  Every other theorem of the
development is stated for every `cap < 2^64` and every `start < cap` and relies on arithmetic only
through these two, so "no overflow / division by zero / bounds panic at `cap = usize::MAX` with
`start = cap - 1`" is the same statement, not a special case.  Element size occurs nowhere in the
model, so the statements are the same for zero-sized types.
-/
namespace CircBuf

theorem C19_add_mod (x y m : Nat) (hm : 0 < m) (hmW : m < W) (hx : x ≤ m) (hy : y ≤ m) :
    addMod x y m = .ok ((x + y) % m) := addMod_spec x y m hm hmW hx hy

theorem C19_sub_mod (x y m : Nat) (hm : 0 < m) (hmW : m < W) (hx : x ≤ m) (hy : y ≤ m) :
    subMod x y m = .ok ((x + (m - y)) % m) := subMod_spec x y m hm hmW hx hy

/-- non-vacuity: front position right below `usize::MAX`, the sum exceeds the machine word -/
example : addMod (W - 2) (W - 3) (W - 1) = .ok (W - 4) := by
  have h8 : 8 ≤ W := by unfold W; decide
  rw [C19_add_mod _ _ _ (by omega) (by omega) (by omega) (by omega)]
  congr 1

end CircBuf

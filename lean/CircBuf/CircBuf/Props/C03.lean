import CircBuf.Lemmas.Conserve
import CircBuf.Lemmas.Truncate
import CircBuf.Lemmas.History
import CircBuf.Lemmas.HistoryFull
/-!
# C03 — every element is dropped exactly once and never while still reachable

The refinement theorems (C01, C09, C12) say what each operation returns, what the buffer holds
afterwards and — for the destroying ones — exactly which `dropped` events it emits
(`RefinesL` / `Runs`: the ledger grows by `dropEvents kind (…)` of an explicitly given list, nothing
else).  What remains is book-keeping on the abstract deque, proved here for every operation of the
specification: the elements present before (plus the ones handed in) are a **permutation** of the
elements in the buffer afterwards, the ones handed to the caller and the ones destroyed.
`C03_consequences` turns such a permutation, together with "every element was created once", into
the property's wording: nothing is destroyed twice, nothing destroyed is still in the buffer or with
the caller, the buffer never holds an element twice; and since the right-hand side of the
permutation accounts for every element, nothing is lost.  `C03_final_drop` is the last step: dropping
the buffer destroys exactly the elements it still holds.
-/
namespace CircBuf

theorem C03_push_back (cap : Nat) (xs : List Elem) (x : Elem) :
    (xs ++ [x]).Perm ((Spec.pushBack cap xs x).1 ++ (Spec.pushBack cap xs x).2.toList) :=
  Spec.pushBack_conserves cap xs x

theorem C03_push_front (cap : Nat) (xs : List Elem) (x : Elem) :
    (x :: xs).Perm ((Spec.pushFront cap xs x).1 ++ (Spec.pushFront cap xs x).2.toList) :=
  Spec.pushFront_conserves cap xs x

theorem C03_pop_back (xs : List Elem) :
    xs.Perm ((Spec.popBack xs).1 ++ (Spec.popBack xs).2.toList) := Spec.popBack_conserves xs

theorem C03_pop_front (xs : List Elem) :
    xs.Perm ((Spec.popFront xs).1 ++ (Spec.popFront xs).2.toList) := Spec.popFront_conserves xs

theorem C03_remove (xs : List Elem) (i : Nat) :
    xs.Perm ((Spec.remove xs i).1 ++ (Spec.remove xs i).2.toList) := Spec.remove_conserves xs i

/-- `truncate_back n`: kept ++ destroyed (the destroyed ones are exactly the events of
`C01_truncate_back`) -/
theorem C03_truncate_back (xs : List Elem) (n : Nat) :
    xs.Perm (Spec.truncateBack xs n ++ xs.drop n) := Spec.truncate_conserves xs n

theorem C03_truncate_front (xs : List Elem) (n : Nat) :
    xs.Perm (Spec.truncateFront xs n ++ xs.take (xs.length - n)) := Spec.truncateFront_conserves xs n

/-- a run of pushes (`extend`, `from_iter`, `fill*`, `clone_from`): kept ++ evicted -/
theorem C03_push_many (cap : Nat) (xs ys : List Elem) :
    (xs ++ ys).Perm ((Spec.pushMany cap xs ys).1 ++ (Spec.pushMany cap xs ys).2) :=
  Spec.pushMany_conserves cap xs ys

/-- `drain(a..b)`: what stays ++ what is drained (yielded or destroyed, C09) -/
theorem C03_drain (xs : List Elem) (a b : Nat) (hab : a ≤ b) :
    xs.Perm ((Spec.drain xs a b).2 ++ (Spec.drain xs a b).1) := Spec.drain_conserves xs a b hab

/-- the book-keeping consequence: if every element was created once and each is in exactly one of
the three places, then nothing is destroyed twice, nothing destroyed is still in the buffer or with
the caller, and the buffer holds no element twice -/
theorem C03_consequences (created inBuf held dropped : List Nat) (hnd : created.Nodup)
    (hp : created.Perm (inBuf ++ held ++ dropped)) :
    dropped.Nodup ∧ inBuf.Nodup ∧ held.Nodup ∧ (∀ i ∈ dropped, i ∉ inBuf ∧ i ∉ held) ∧
      (∀ i ∈ inBuf, i ∉ held) := by
  obtain ⟨h1, h2, h3⟩ := List.nodup_append.1 (hp.nodup_iff.mp hnd)
  obtain ⟨h4, h5, h6⟩ := List.nodup_append.1 h1
  exact ⟨h2, h4, h5,
    fun i hi => ⟨fun hb => h3 i (List.mem_append_left _ hb) i hi rfl,
      fun hh => h3 i (List.mem_append_right _ hh) i hi rfl⟩,
    fun i hi hh => h6 i hi i hh rfl⟩

/-- dropping the buffer (`Drop` = `clear`): exactly the elements still held are destroyed, each
once, and nothing is left -/
theorem C03_final_drop (s : Sys) (h : Inv s.buf) (hf : s.faults.drop = 0) :
    RefinesL dropBuffer s () [] (dropEvents s.kind (abs s.buf)) := clear_spec s h hf

/-- **along any finite history** of the abstract deque: initial contents plus everything handed in is
a permutation of final contents, everything handed to the caller and everything destroyed -/
theorem C03_history (cap : Nat) (ops : List Op) (xs : List Elem) :
    (xs ++ (Spec.tally cap ops xs).1).Perm
      ((Spec.runOps cap ops xs).2 ++ (Spec.tally cap ops xs).2.1 ++ (Spec.tally cap ops xs).2.2) := by
  induction ops generalizing xs with
  | nil => simp [Spec.tally, Spec.runOps]
  | cons op rest ih => exact perm_tally_step (Spec.step_conserves cap xs op) (ih (Spec.step cap xs op).1)

/-- … and the model's ledger along that history consists of exactly those destructions (the model's
outputs and contents agree with the abstract run by `C01_history`) -/
theorem C03_history_ledger (cap : Nat) (ops : List Op) (s : Sys) (g : Good cap s) :
    (runOps ops s).2.log = Spec.histDrops s.kind cap ops (abs s.buf) ++ s.log := by
  induction ops generalizing s with
  | nil => rfl
  | cons op rest ih =>
    obtain ⟨s', e, g', a, l, k, _, _⟩ := step_refines cap s op g
    have := ih s' g'
    simp only [runOps, e, Spec.histDrops]
    rw [this, a, l, k, List.append_assoc]

/-- **conservation along any finite history over the whole mutator API** (core operations and the ones
that call `Clone`, a closure or an iterator): initial contents plus everything that entered — handed in,
produced, cloned — is a permutation of final contents, everything handed out and everything
destroyed.  Together with `C01_history_full` (the model's contents are the abstract ones at every step)
no element is lost or duplicated along such a history. -/
theorem C03_history_full (cap : Nat) (ops : List OpX) (xs : List Elem) (next : Nat) :
    (xs ++ (Spec.tallyX cap ops xs next).1).Perm
      ((Spec.runOpsX cap ops xs next).2 ++ (Spec.tallyX cap ops xs next).2.1 ++
        (Spec.tallyX cap ops xs next).2.2) := by
  induction ops generalizing xs next with
  | nil => simp [Spec.tallyX, Spec.runOpsX]
  | cons op rest ih =>
    exact perm_tally_step (Spec.stepX_conserves cap xs next op)
      (ih (Spec.stepX cap xs next op).1 (Spec.stepX cap xs next op).2.1)

end CircBuf

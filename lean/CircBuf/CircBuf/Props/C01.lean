import CircBuf.Lemmas.Ops
import CircBuf.Lemmas.Remove
import CircBuf.Lemmas.Swap
import CircBuf.Lemmas.Truncate
import CircBuf.Lemmas.Loops
import CircBuf.Lemmas.Contig
import CircBuf.Lemmas.Drain
import CircBuf.Lemmas.Contents
import CircBuf.Lemmas.ExtendSlice
import CircBuf.Lemmas.History
import CircBuf.Lemmas.HistoryFull
import CircBuf.Lemmas.Fill
/-!
# C01 — every mutator implements bounded-deque sequence semantics

`Refines op s r xs'` says: run in **any** state `s` whose buffer satisfies the representation
invariant (any capacity `< 2^64`, 0 and 1 included; any front position; any length), `op` returns
`r` without panicking, touches only the buffer, re-establishes the invariant, keeps the capacity and
leaves the abstract sequence `xs'`.  `RefinesL` additionally records the ledger events emitted.
Each theorem equates `(r, xs')` with the result of the list-level specification in `Spec.lean`
(a deque capped at the capacity, written on plain lists, no slots, no modular arithmetic).  Arguments
are unrestricted naturals, so "out of range" and `usize::MAX` are ordinary values.

Because each operation re-establishes `Inv`, the theorems compose over any finite history
starting from `new()` (`inv_new'`); `len`, `is_empty`, `is_full` are `(abs b).length`, `= 0`,
`= cap` by `abs_length`.
-/
namespace CircBuf

theorem C01_push_back (s : Sys) (x : Elem) (h : Inv s.buf) :
    Refines (pushBack x) s (Spec.pushBack s.buf.cap (abs s.buf) x).2
      (Spec.pushBack s.buf.cap (abs s.buf) x).1 := pushBack_spec s x h

theorem C01_push_front (s : Sys) (x : Elem) (h : Inv s.buf) :
    Refines (pushFront x) s (Spec.pushFront s.buf.cap (abs s.buf) x).2
      (Spec.pushFront s.buf.cap (abs s.buf) x).1 := pushFront_spec s x h

theorem C01_try_push_back (s : Sys) (x : Elem) (h : Inv s.buf) :
    Refines (tryPushBack x) s (Spec.tryPushBack s.buf.cap (abs s.buf) x).2
      (Spec.tryPushBack s.buf.cap (abs s.buf) x).1 := tryPushBack_spec s x h

theorem C01_try_push_front (s : Sys) (x : Elem) (h : Inv s.buf) :
    Refines (tryPushFront x) s (Spec.tryPushFront s.buf.cap (abs s.buf) x).2
      (Spec.tryPushFront s.buf.cap (abs s.buf) x).1 := tryPushFront_spec s x h

theorem C01_pop_back (s : Sys) (h : Inv s.buf) :
    Refines popBack s (Spec.popBack (abs s.buf)).2 (Spec.popBack (abs s.buf)).1 := popBack_spec s h

theorem C01_pop_front (s : Sys) (h : Inv s.buf) :
    Refines popFront s (Spec.popFront (abs s.buf)).2 (Spec.popFront (abs s.buf)).1 :=
  popFront_spec s h

theorem C01_remove (s : Sys) (i : Nat) (h : Inv s.buf) :
    Refines (remove i) s (Spec.remove (abs s.buf) i).2 (Spec.remove (abs s.buf) i).1 :=
  remove_spec s i h

/-- `swap` with both indexes in range (out of range: the documented panic, see C11) -/
theorem C01_swap (s : Sys) (i j : Nat) (h : Inv s.buf) (hi : i < s.buf.size) (hj : j < s.buf.size) :
    Refines (swap i j) s () (Spec.swap (abs s.buf) i j) := swap_spec s i j h hi hj

theorem C01_swap_remove_back (s : Sys) (i : Nat) (h : Inv s.buf) :
    Refines (swapRemoveBack i) s (Spec.swapRemoveBack (abs s.buf) i).2
      (Spec.swapRemoveBack (abs s.buf) i).1 := swapRemoveBack_spec s i h

theorem C01_swap_remove_front (s : Sys) (i : Nat) (h : Inv s.buf) :
    Refines (swapRemoveFront i) s (Spec.swapRemoveFront (abs s.buf) i).2
      (Spec.swapRemoveFront (abs s.buf) i).1 := swapRemoveFront_spec s i h

theorem C01_truncate_back (s : Sys) (n : Nat) (h : Inv s.buf) (hf : s.faults.drop = 0) :
    RefinesL (truncateBack n) s () (Spec.truncateBack (abs s.buf) n)
      (dropEvents s.kind ((abs s.buf).drop n)) := truncateBack_spec s n h hf

theorem C01_truncate_front (s : Sys) (n : Nat) (h : Inv s.buf) (hf : s.faults.drop = 0) :
    RefinesL (truncateFront n) s () (Spec.truncateFront (abs s.buf) n)
      (dropEvents s.kind ((abs s.buf).take ((abs s.buf).length - n))) := truncateFront_spec s n h hf

theorem C01_clear (s : Sys) (h : Inv s.buf) (hf : s.faults.drop = 0) :
    RefinesL clear s () [] (dropEvents s.kind (abs s.buf)) := clear_spec s h hf

theorem C01_make_contiguous (s : Sys) (h : Inv s.buf) :
    ∃ b' v, makeContiguous s = (.ok v, { s with buf := b' }) ∧ Inv b' ∧ abs b' = abs s.buf ∧
      b'.cap = s.buf.cap := by
  obtain ⟨b', v, h1, h2, h3, h4, _⟩ := makeContiguous_spec s h
  exact ⟨b', v, h1, h2, h3, h4⟩

/-- `extend(iter)` with an iterator of `m` new elements: the buffer ends up with the last `cap`
elements of `old contents ++ new elements`; `Runs` also gives the ledger and the id counter. -/
theorem C01_extend (m : Nat) (s : Sys) (h : Inv s.buf) (hd : s.faults.drop = 0)
    (hn : s.faults.next = 0) (hk : s.kind = .tracked) :
    Runs (extendIter m) s () (Spec.extend s.buf.cap (abs s.buf) (newElems s.next m))
      (extendLog s.kind s.buf.cap (abs s.buf) (newElems s.next m)) m := by
  rw [← pushMany_contents _ _ _ (abs_length _ h ▸ h.size_le)]
  exact extendIter_runs m s h hd hn hk

/-- `extend_from_slice(other)`: the buffer ends up with the last `cap` elements of
`contents ++ clones`; only the last `cap` elements of a longer slice are cloned -/
theorem C01_extend_from_slice (s : Sys) (other : List Elem) (h : Inv s.buf)
    (hd : s.faults.drop = 0) (hcl : s.faults.clone = 0) :
    ∃ evs, Runs (extendFromSlice other) s ()
      (Spec.extend s.buf.cap (abs s.buf)
        (cloneList s.kind s.next (other.drop (other.length - s.buf.cap))))
      evs (cloneCount s.kind (other.drop (other.length - s.buf.cap)).length) :=
  extendFromSlice_runs s other h hd hcl

/-- `fill_spare_with(f)`: the free space is filled with the closure's results, in call order -/
theorem C01_fill_spare_with (s : Sys) (h : Inv s.buf) (hd : s.faults.drop = 0)
    (hc : s.faults.call = 0) (hk : s.kind = .tracked) :
    Runs fillSpareWith s () (abs s.buf ++ newElems s.next (s.buf.cap - s.buf.size))
      ((newElems s.next (s.buf.cap - s.buf.size)).reverse.map fun e => Event.given e.id)
      (s.buf.cap - s.buf.size) := fillSpareWith_runs s h hd hc hk

/-- `fill_with(f)`: old contents destroyed, the buffer is full of the closure's results -/
theorem C01_fill_with (s : Sys) (h : Inv s.buf) (hd : s.faults.drop = 0)
    (hc : s.faults.call = 0) (hk : s.kind = .tracked) :
    Runs fillWith s () (newElems s.next s.buf.cap)
      (((newElems s.next s.buf.cap).reverse.map fun e => Event.given e.id) ++
        dropEvents s.kind (abs s.buf)) s.buf.cap := fillWith_runs s h hd hc hk

theorem C01_fill_spare (s : Sys) (value : Elem) (h : Inv s.buf) (hd : s.faults.drop = 0)
    (hc : s.faults.clone = 0) :
    ∃ evs, Runs (fillSpare value) s ()
      (if s.buf.size = s.buf.cap then abs s.buf
       else abs s.buf ++ cloneList s.kind s.next (List.replicate (s.buf.cap - 1 - s.buf.size) value) ++ [value])
      evs (if s.buf.size = s.buf.cap then 0 else cloneCount s.kind (s.buf.cap - 1 - s.buf.size)) :=
  fillSpare_runs s value h hd hc

theorem C01_fill (s : Sys) (value : Elem) (h : Inv s.buf) (hd : s.faults.drop = 0)
    (hc : s.faults.clone = 0) :
    ∃ evs, Runs (fill value) s ()
      (if s.buf.cap = 0 then []
       else cloneList s.kind s.next (List.replicate (s.buf.cap - 1) value) ++ [value])
      evs (if s.buf.cap = 0 then 0 else cloneCount s.kind (s.buf.cap - 1)) := fill_runs s value h hd hc

/-- `drain(a..b)` followed by its drop, after any consumption: what is left is
`take a ++ drop b` (details in C09) -/
theorem C01_drain (b0 : CB) (d : Drain) (s : Sys) (hd : DrainInv b0 d s) (hf : s.faults.drop = 0) :
    ∃ b', (d.drop s).1 = .ok () ∧ (d.drop s).2.buf = b' ∧ Inv b' ∧
      abs b' = (Spec.drain (abs b0) d.rs d.re).2 ∧ b'.cap = b0.cap := by
  obtain ⟨b', h1, h2, h3, h4, _⟩ := Drain.drop_spec b0 d s hd hf
  exact ⟨b', by rw [h1], by rw [h1], h2, h3, h4⟩

/-- a write through a mutable view (`get_mut`, `index_mut`, `iter_mut`, …) replaces exactly that
position -/
theorem C01_write (b : CB) (h : Inv b) (i : Nat) (hi : i < b.size) (v : Elem) :
    Inv { b with items := setCell b.items (phys b.start b.cap i) (some v) } ∧
    abs { b with items := setCell b.items (phys b.start b.cap i) (some v) } = (abs b).set i v :=
  write_spec b h i hi v

/-- **every finite history**: any sequence of (push / try_push / pop at both ends, remove, swap incl.
its documented panics, swap_remove, truncate, clear, make_contiguous) operations, run from any state
satisfying the invariant, produces the outputs and the final contents of the same sequence on the
abstract deque -/
theorem C01_history (cap : Nat) (ops : List Op) (s : Sys) (g : Good cap s) :
    (runOps ops s).1 = (Spec.runOps cap ops (abs s.buf)).1 ∧
    abs (runOps ops s).2.buf = (Spec.runOps cap ops (abs s.buf)).2 ∧ Good cap (runOps ops s).2 :=
  history_refines cap ops s g

/-- … in particular from `new()`, for every capacity `< 2^64` (0 and 1 included) -/
theorem C01_history_from_new (cap : Nat) (hc : cap < W) (ops : List Op) (k : Kind) :
    (runOps ops { buf := CB.new cap, kind := k }).1 = (Spec.runOps cap ops []).1 ∧
    abs (runOps ops { buf := CB.new cap, kind := k }).2.buf = (Spec.runOps cap ops []).2 := by
  have := C01_history cap ops { buf := CB.new cap, kind := k } ⟨(inv_new' cap hc).1, rfl, rfl⟩
  rw [(inv_new' cap hc).2] at this
  exact ⟨this.1, this.2.1⟩

/-- **every finite history over the whole mutator API**: the fourteen core operations and `extend`,
`extend_from_slice`, `fill`, `fill_spare`, `fill_with`, `fill_spare_with`, `clone_from` (user code that
does not panic; identity-tracked elements), in any order and number, from any state satisfying the
invariant: outputs and final contents are those of the abstract deque, whose state is the sequence
and the counter new identities are drawn from -/
theorem C01_history_full (cap : Nat) (ops : List OpX) (s : Sys) (g : GoodX cap s) :
    (runOpsX ops s).1 = (Spec.runOpsX cap ops (abs s.buf) s.next).1 ∧
    abs (runOpsX ops s).2.buf = (Spec.runOpsX cap ops (abs s.buf) s.next).2 ∧ GoodX cap (runOpsX ops s).2 := by
  induction ops generalizing s with
  | nil => exact ⟨rfl, rfl, g⟩
  | cons op rest ih =>
    obtain ⟨s', e, g', a, n⟩ := stepX_refines cap s op g
    obtain ⟨h1, h2, h3⟩ := ih s' g'
    simp only [runOpsX, e, Spec.runOpsX]
    rw [a, n] at h1 h2
    exact ⟨by rw [h1], h2, h3⟩

/-- non-vacuity: `new()` of any capacity `< 2^64` is a good start for such a history -/
example (cap : Nat) (hc : cap < W) : GoodX cap { buf := CB.new cap } :=
  ⟨(inv_new' cap hc).1, rfl, rfl, rfl⟩

/-- non-vacuity: a wrapped, full buffer of capacity 3 (front position 2) satisfies the invariant -/
example : Inv ⟨3, 3, 2, fun i => some ⟨i + 1, 10 * i⟩⟩ := by
  refine ⟨by decide, Or.inl (by decide), by unfold W; decide, ?_⟩
  intro i hi; rfl

end CircBuf

import CircBuf.Lemmas.Drain
/-!
# C09 — drain removes exactly the requested range and keeps the rest in order

For every capacity (0 included), every layout, every valid range in every `RangeBounds` spelling:
* `drain(a..b)` creates a drain whose cursors are `a..b` over the original buffer (`DrainInv`);
  an invalid range panics with a documented message before anything is touched;
* `next` / `next_back` return the head / last of what is left of `(abs b0)[a..b]` and only move a
  cursor; `len` (`Drain.len = ie - is`) is the number of elements left;
* dropping the drain at **any** point destroys exactly the elements not yet yielded (one `dropped`
  event each, in order), moves the tail into the hole with a loop that provably terminates and never
  fails (`backfillLoop_shifts`; `backfillLoop_spec` says the same slot by slot), and leaves a buffer satisfying the invariant whose contents are
  `(abs b0).take a ++ (abs b0).drop b`.
-/
namespace CircBuf

theorem C09_new (sb eb : Bound) (s : Sys) (h : Inv s.buf) (hsb : sb.val < W)
    (heb : eb.val < W) (he : eb.endNat s.buf.size ≤ s.buf.size)
    (hs : sb.startNat ≤ eb.endNat s.buf.size) :
    Drain.new sb eb s =
      (.ok ⟨s.buf.size, sb.startNat, eb.endNat s.buf.size, sb.startNat, eb.endNat s.buf.size⟩,
        { s with buf := ⟨s.buf.cap, 0, s.buf.start, s.buf.items⟩ }) ∧
    DrainInv s.buf ⟨s.buf.size, sb.startNat, eb.endNat s.buf.size, sb.startNat, eb.endNat s.buf.size⟩
      { s with buf := ⟨s.buf.cap, 0, s.buf.start, s.buf.items⟩ } :=
  Drain.new_spec sb eb s h hsb heb he hs

theorem C09_next (b0 : CB) (d : Drain) (s : Sys) (hd : DrainInv b0 d s) :
    d.next s = (.ok (((abs b0).drop d.is).take (d.ie - d.is) |>.head?,
      { d with is := d.is + (if d.is < d.ie then 1 else 0) }), s) ∧
    DrainInv b0 { d with is := d.is + (if d.is < d.ie then 1 else 0) } s := Drain.next_spec b0 d s hd

theorem C09_next_back (b0 : CB) (d : Drain) (s : Sys) (hd : DrainInv b0 d s) :
    d.nextBack s = (.ok (((abs b0).drop d.is).take (d.ie - d.is) |>.getLast?,
      { d with ie := d.ie - (if d.is < d.ie then 1 else 0) }), s) ∧
    DrainInv b0 { d with ie := d.ie - (if d.is < d.ie then 1 else 0) } s :=
  Drain.nextBack_spec b0 d s hd

theorem C09_len (b0 : CB) (d : Drain) (s : Sys) (hd : DrainInv b0 d s) :
    d.len = (((abs b0).drop d.is).take (d.ie - d.is)).length := by
  rw [List.length_take, List.length_drop, abs_length b0 hd.inv0, ← hd.bs]
  exact (Nat.min_eq_left (Nat.sub_le_sub_right (Nat.le_trans hd.h3 hd.h4) _)).symm

theorem C09_drop (b0 : CB) (d : Drain) (s : Sys) (hd : DrainInv b0 d s) (hf : s.faults.drop = 0) :
    ∃ b', d.drop s = (.ok (), { s with
        buf := b'
        log := dropEvents s.kind (((abs b0).drop d.is).take (d.ie - d.is)) ++ s.log }) ∧
      Inv b' ∧ abs b' = (abs b0).take d.rs ++ (abs b0).drop d.re ∧ b'.cap = b0.cap ∧
      b'.start = b0.start ∧
      (∀ i, i < d.rs → b'.items (phys b0.start b0.cap i) = b0.items (phys b0.start b0.cap i)) :=
  Drain.drop_spec b0 d s hd hf

end CircBuf

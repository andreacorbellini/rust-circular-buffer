import CircBuf.Lemmas.Cmp
/-!
# C13 — equality, ordering, hashing and Debug depend only on the logical contents

For **every** pair of capacities and **every** pair of layouts (so every split of both sides into
two physical segments is paired with every other):
* `a == b` is `decide (values of abs a = values of abs b)` — the three-way segment alignment of
  `PartialEq` is list equality, and none of its slice indexes is out of range (the call returns
  `.ok`);
* comparison with a slice (hence with arrays and references to them, which forward to it) agrees;
* `partial_cmp` / `cmp` are the lexicographic order of the two sequences (`lexCmp`, with
  `lexCmp a b = 0 ↔ a = b` and `lexCmp a b = -1 ↔ a < b` for the standard order on lists);
* the hasher is fed `len` followed by the elements in order, so equal contents (of equal length)
  give equal feeds, whatever the layout;
* `Debug` lists the elements in order, as the equivalent slice does.
None of them modifies the buffer (`LogExt`: only the ledger grows).
-/
namespace CircBuf

theorem C13_eq (s : Sys) (other : CB) (h : Inv s.buf) (ho : Inv other) (hf : s.faults.eq = 0) :
    ∃ s', eqBuf other s = (.ok (decide (vals (abs s.buf) = vals (abs other))), s') ∧ LogExt s s' :=
  eqBuf_spec s other h ho hf

theorem C13_eq_slice (s : Sys) (other : List Elem) (h : Inv s.buf) (hf : s.faults.eq = 0) :
    ∃ s', eqSlice other s = (.ok (decide (vals (abs s.buf) = vals other)), s') ∧ LogExt s s' :=
  eqSlice_spec s other h hf

theorem C13_cmp (s : Sys) (other : CB) (h : Inv s.buf) (ho : Inv other) :
    ∃ s', cmpBuf other s = (.ok (lexCmp (vals (abs s.buf)) (vals (abs other))), s') ∧ LogExt s s' :=
  cmpBuf_spec s other h ho

theorem C13_lex_eq (a b : List Nat) : lexCmp a b = 0 ↔ a = b := by
  induction a generalizing b with
  | nil => cases b <;> simp [lexCmp]
  | cons x xs ih =>
    cases b with
    | nil => simp [lexCmp]
    | cons y ys =>
      simp only [lexCmp, List.cons.injEq, ← ih]
      split
      · omega
      split <;> omega

theorem C13_lex_lt (a b : List Nat) : lexCmp a b = -1 ↔ a < b := by
  induction a generalizing b with
  | nil => cases b <;> simp [lexCmp]
  | cons x xs ih =>
    cases b with
    | nil => simp [lexCmp]
    | cons y ys =>
      simp only [lexCmp, List.cons_lt_cons_iff, ← ih]
      split
      · omega
      split <;> omega

theorem C13_hash (s : Sys) (h : Inv s.buf) :
    ∃ s', hashWords s = (.ok (s.buf.size :: vals (abs s.buf)), s') ∧ LogExt s s' := hashWords_spec s h

theorem C13_debug (s : Sys) (h : Inv s.buf) :
    ∃ s', fmtItems s = (.ok (abs s.buf), s') ∧ LogExt s s' := fmtItems_spec s h

/-- the ledger is the only thing a comparison changes -/
theorem C13_readonly (s s' : Sys) (h : LogExt s s') : s'.buf = s.buf := h.buf

end CircBuf

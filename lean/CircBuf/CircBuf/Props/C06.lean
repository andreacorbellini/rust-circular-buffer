import CircBuf.Lemmas.Cmp
import CircBuf.Lemmas.Fill
import CircBuf.Lemmas.ExtendSlice
import CircBuf.Lemmas.Loops
import CircBuf.Lemmas.Truncate
/-!
# C06 — a panic in user code (Clone, closure, iterator, eq) leaves a valid buffer

The fault plan is "the `k+1`-th call of that kind panics", for **every** `k`, capacity and layout:
* **`T::clone` in `extend_from_slice`** (`C06_clone_in_extend_from_slice`): the buffer stays valid;
  each of the `k` clones made before the panic is either in the buffer — appended behind the old
  contents, because the length is committed after each of the two free segments — or has been
  destroyed by the unwinding `Guard`: `kept ++ destroyed` is exactly the list of clones made, the
  ledger records one `dropped` event per destroyed clone and nothing else.  (This is the leak of the
  unrepaired code, F5, as a theorem about the repaired code; free space wrapping around the array
  end is the case `k ≥ first segment length`.)
* **`T::clone` in `fill_spare` / `fill`** (`C06_clone_in_fill_spare`, `C06_clone_in_fill`): the buffer
  stays valid and holds the old contents (for `fill`: nothing, they were destroyed once each)
  followed by the `k` clones made before the panic; the value handed in, which the callee owns, is
  destroyed exactly once; no clone is lost or destroyed.
* **`T::clone` in `clone_from`** (`C06_clone_in_clone_from`): the old contents were destroyed once each,
  the buffer is valid and holds the clones made so far.
* **`T::clone` in `Clone::clone`** (`C06_clone_in_clone`): the source buffer is literally untouched; the
  partially built copy is dropped during unwinding, destroying each clone made exactly once.
* **closure of `fill_with` / `fill_spare_with`** (`C06_closure`): the buffer holds the old contents
  followed by the `k` elements produced before the panic — every created element is in the buffer.
* **iterator given to `extend` / `from_iter`** (`C06_iterator`): the buffer holds what pushing the
  `k` items produced before gives (the displaced elements were destroyed once each, as usual).
* **element comparison** (`C06_eq_readonly`): `==` never writes to the buffer, so after a panic in
  *any* comparison call the buffer is literally the one before.
In each case the post-state satisfies `Inv`, so it behaves normally afterwards (all theorems only
assume `Inv`), and C03/C05 apply to the final drop.
-/
namespace CircBuf

/-- **a panicking `clone` in `extend_from_slice`'s cloning phase** (the `k`-th source element, for
any `k`): the buffer stays valid, and each of the `k` clones made so far is either in the buffer
(`kept`, appended behind the old contents) or has been destroyed (`destroyed`) — nothing is leaked,
nothing is destroyed twice. -/
theorem C06_clone_in_extend_from_slice (s : Sys) (other : List Elem) (k : Nat) (h : Inv s.buf)
    (hc : 0 < s.buf.cap) (hk : s.faults.clone = k + 1) (hkm : k < other.length)
    (hd : s.faults.drop = 0) (hfit : s.buf.size + other.length ≤ s.buf.cap) :
    ∃ s' kept destroyed, cloneIntoFree other s = (.error (.user "clone"), s') ∧ Inv s'.buf ∧
      s'.buf.cap = s.buf.cap ∧ kept ++ destroyed = cloneList s.kind s.next (other.take k) ∧
      abs s'.buf = abs s.buf ++ kept ∧
      s'.log = dropEvents s.kind destroyed ++ (cloneLog s.kind s.next (other.take k) ++ s.log) := by
  obtain ⟨l2, hsl⟩ := slicesUninitMut_run s h hc
  generalize hwl : min (firstFree s.buf) other.length = wl at *
  have hw1 : wl ≤ firstFree s.buf := hwl ▸ Nat.min_le_left ..
  have hw2 : s.buf.size + wl ≤ s.buf.cap := by omega
  have htk : wl = (other.take wl).length := by rw [List.length_take]; omega
  rw [cloneIntoFree_eq]
  by_cases hlt : k < wl
  · -- the panic happens in the first segment: nothing is committed
    obtain ⟨s', hr, hI, hcap, hA, hlog⟩ :=
      cloneSegment_fault s (other.take wl) wl k htk h hc hk hlt hd hw1 hw2
    rw [List.take_take, Nat.min_eq_left (Nat.le_of_lt hlt)] at hlog
    exact ⟨s', [], _, by mrun [hsl, hwl, hr], hI, hcap, rfl, by rw [hA, List.append_nil], hlog⟩
  · -- the first segment is complete and committed; the panic happens `j` clones into the wrapped segment
    obtain ⟨j, rfl⟩ : ∃ j, k = wl + j := ⟨k - wl, by omega⟩
    obtain ⟨s1, hr1, c1, hnext⟩ :=
      cloneSegment_passes s (other.take wl) wl htk h hc (Or.inr (by omega)) hw1 hw2
    have hc1 : 0 < s1.buf.cap := c1.cap_eq ▸ hc
    obtain ⟨l3, hsl2⟩ := slicesUninitMut_run s1 c1.inv hc1
    have hdl : (other.drop wl).length = other.length - wl := List.length_drop
    have hrest : (other.drop wl).length ≠ 0 := by omega
    have hroom := hnext (by omega) (other.drop wl).length (by omega)
    obtain ⟨s', hr2, hI, hcap, hA, hlog⟩ := cloneSegment_fault s1 (other.drop wl) _ j rfl
      c1.inv hc1 (by rw [c1.faults_eq, ← htk]; simp only; omega) (by omega)
      (by rw [c1.faults_eq]; exact hd) hroom (by rw [c1.size_eq h, c1.cap_eq, ← htk]; omega)
    refine ⟨s', cloneList s.kind s.next (other.take wl),
      cloneList s1.kind s1.next ((other.drop wl).take j),
      by mrun [hsl, hwl, hr1, hsl2, hr2], hI, hcap.trans c1.cap_eq, ?_,
      by rw [hA, c1.abs_eq], ?_⟩
    · rw [List.take_add, cloneList_append, c1.kind_eq, c1.next_eq]
    · rw [hlog, c1.log_eq, c1.kind_eq, c1.next_eq, List.take_add, cloneLog_append, List.append_assoc]

/-- **`fill_spare(value)` with a `clone` that panics at its `k+1`-th call**: the panic propagates; the
buffer is valid and holds the old contents followed by the `k` clones made before; `value`, which
the callee owns, is destroyed exactly once (one more ledger entry); nothing else is destroyed and no
clone is lost -/
theorem C06_clone_in_fill_spare (s : Sys) (value : Elem) (k : Nat) (h : Inv s.buf)
    (hd : s.faults.drop = 0) (hc : s.faults.clone = k + 1) (hk : k < s.buf.cap - 1 - s.buf.size) :
    ∃ s', fillSpare value s = (.error (.user "clone"), s') ∧ Inv s'.buf ∧
      abs s'.buf = abs s.buf ++ cloneList s.kind s.next (List.replicate k value) ∧
      s'.buf.cap = s.buf.cap ∧
      s'.log = dropEvents s.kind [value] ++ cloneLog s.kind s.next (List.replicate k value) ++ s.log := by
  have hfull : ¬ (s.buf.cap = 0 ∨ s.buf.size = s.buf.cap) := by omega
  have hfit : (abs s.buf).length + k ≤ s.buf.cap := by rw [abs_length s.buf h]; omega
  obtain ⟨s1, evs, r1, a1, hl⟩ := pushAll_clones_stops
    (List.replicate (s.buf.cap - 1 - s.buf.size) value) k (by rwa [List.length_replicate]) (At.self h) hd hc
  rw [List.take_replicate, Nat.min_eq_left (Nat.le_of_lt hk)] at a1 hl
  rw [hl hfit, pushMany_fits _ _ _ (by rwa [cloneList_length, List.length_replicate])] at a1
  rw [List.map_replicate, ← fillSpareLoop_eq (s.buf.cap - s.buf.size) s value h (by omega)
    (Nat.sub_le_sub_right (Nat.sub_le _ 1) _)] at r1
  have hdrop := dropElem_run s1 value (a1.faults_eq ▸ hd)
  simp only [fillSpare, ↓bind_run, getBuf_run, hfull, if_false, onPanic, r1, hdrop]
  exact ⟨_, rfl, a1.inv, a1.abs_eq, a1.cap_eq, by simp only [a1.log_eq, a1.kind_eq, List.append_assoc]⟩

/-- **`fill(value)` with a `clone` that panics at its `k+1`-th call** (no destructor panics): the old
contents were destroyed, the buffer holds the `k` clones made, `value` is destroyed exactly once -/
theorem C06_clone_in_fill (s : Sys) (value : Elem) (k : Nat) (h : Inv s.buf)
    (hd : s.faults.drop = 0) (hc : s.faults.clone = k + 1) (hk : k < s.buf.cap - 1) :
    ∃ s', fill value s = (.error (.user "clone"), s') ∧ Inv s'.buf ∧
      abs s'.buf = cloneList s.kind s.next (List.replicate k value) ∧ s'.buf.cap = s.buf.cap ∧
      s'.log = dropEvents s.kind [value] ++ cloneLog s.kind s.next (List.replicate k value)
        ++ dropEvents s.kind (abs s.buf) ++ s.log := by
  obtain ⟨s1, r1, p1⟩ := (clear_spec s h hd).runs
  have hs0 : s1.buf.size = 0 := p1.size_eq
  obtain ⟨s2, r2, h2, h3, h4, h5⟩ := C06_clone_in_fill_spare s1 value k p1.inv (p1.faults_eq ▸ hd)
    (p1.faults_eq ▸ hc) (by rw [p1.cap_eq, hs0]; omega)
  rw [p1.abs_eq, p1.kind_eq, p1.next_eq] at h3
  rw [p1.log_eq, p1.kind_eq, p1.next_eq] at h5
  exact ⟨s2, by simp only [fill, bind_run, onPanic, r1, r2], h2, by simpa using h3, h4.trans p1.cap_eq,
    by simpa [List.append_assoc] using h5⟩

/-- non-vacuity: an empty capacity-4 buffer of tracked elements, the 2nd clone armed to panic -/
example : let s : Sys := { buf := CB.new 4, faults := { clone := 2 } }
    Inv s.buf ∧ s.faults.drop = 0 ∧ s.faults.clone = 1 + 1 ∧ 1 < s.buf.cap - 1 - s.buf.size := by
  refine ⟨(inv_new' 4 (by unfold W; omega)).1, rfl, rfl, by decide⟩

/-- **`clone_from(other)` with a `clone` that panics at its `k+1`-th call**: the old contents were
destroyed (once each); the buffer is valid and holds the clones made so far (at most the last
`capacity` of them); the source slice is only read -/
theorem C06_clone_in_clone_from (other : List Elem) (s : Sys) (k : Nat) (h : Inv s.buf)
    (hd : s.faults.drop = 0) (hc : s.faults.clone = k + 1) (hk : k < other.length) :
    ∃ s', cloneFrom other s = (.error (.user "clone"), s') ∧ Inv s'.buf ∧ s'.buf.cap = s.buf.cap ∧
      abs s'.buf = Spec.lastN s.buf.cap (cloneList s.kind s.next (other.take k)) := by
  obtain ⟨s1, r1, p1⟩ := (clear_spec s h hd).runs
  obtain ⟨s2, evs, r2, a2, _⟩ := pushAll_clones_stops other k hk p1.at hd hc
  rw [pushMany_contents _ _ _ (by simp)] at a2
  simp only [cloneFrom, ↓bind_run, r1, extendCloned_eq, r2]
  exact ⟨_, rfl, a2.inv, a2.cap_eq, by simpa [Spec.extend] using a2.abs_eq⟩

/-- **`Clone::clone` with a `clone` that panics at its `k+1`-th call**: the panic propagates; the source
buffer is literally untouched; the partially built copy is dropped during unwinding, which destroys
each of the `k` clones made exactly once (the ledger's newest entries are exactly those) -/
theorem C06_clone_in_clone (s : Sys) (k : Nat) (h : Inv s.buf)
    (hd : s.faults.drop = 0) (hc : s.faults.clone = k + 1) (hk : k < s.buf.size) :
    ∃ s' pre, cloneBuf s = (.error (.user "clone"), s') ∧ s'.buf = s.buf ∧
      s'.log = dropEvents s.kind (cloneList s.kind s.next ((abs s.buf).take k)) ++ pre := by
  have hlen := abs_length s.buf h
  have hsz := h.size_le
  obtain ⟨s2, evs, r2, a2, _⟩ := pushAll_clones_stops (abs s.buf) k (by omega) (At.new s h.cap_lt) hd hc
  rw [pushMany_fits _ _ _ (by simp [cloneList_length, hlen]; omega)] at a2
  obtain ⟨b3, r3, _⟩ := clear_spec s2 a2.inv (a2.faults_eq ▸ hd)
  have hsl := iterSlots_run s h
  have hall := readAll_window s h
  simp only [cloneBuf, ↓bind_run, getBuf_run, hsl, hall, swapIn, attempt, onPanic, extendCloned_eq, r2,
    dropBuffer, r3, raise_run]
  exact ⟨_, s2.log, rfl, rfl, by simp only [a2.kind_eq, a2.abs_eq]; rfl⟩

/-- **the closure of `fill_with` / `fill_spare_with` panics at its `k+1`-th call**: the buffer is
valid and holds the old contents followed by the `k` elements produced before; every element that
was created is in the buffer. -/
theorem C06_closure (fuel : Nat) (s : Sys) (k : Nat) (h : Inv s.buf)
    (hd : s.faults.drop = 0) (hc : s.faults.call = k + 1) (hk : s.kind = .tracked)
    (hfuel : fuel = s.buf.cap - s.buf.size) (hkf : k < fuel) :
    ∃ s', fillSpareWithLoop fuel s = (.error (.user "call"), s') ∧ Inv s'.buf ∧
      abs s'.buf = abs s.buf ++ newElems s.next k ∧ s'.buf.cap = s.buf.cap ∧ s'.next = s.next + k := by
  obtain ⟨s1, r1, a1⟩ := pushAll_produce "call" k (At.self h) hk hd
    (Or.inr (by show k < s.faults.call; omega))
  have hp := produceElem_panics "call" s1
    (by rw [a1.faults_eq, Faults.tickUser_user]; show s.faults.call - k = 1; omega)
  rw [pushMany_fits _ _ _ (by simp [abs_length s.buf h, newElems]; omega)] at a1
  exact ⟨_, (fillSpareWithLoop_eq fuel s h hfuel).trans (pushAll_replicate_stops hkf r1 hp),
    a1.inv, a1.abs_eq, a1.cap_eq, a1.next_eq⟩

/-- **the iterator given to `extend` panics at its `k+1`-th `next` call** (`k = m`: the call that
would have returned `None`): the buffer is valid and holds what pushing the `k` items produced
before gives; the displaced elements were destroyed as usual. -/
theorem C06_iterator (m : Nat) (s : Sys) (k : Nat) (h : Inv s.buf)
    (hd : s.faults.drop = 0) (hn : s.faults.next = k + 1) (hk : s.kind = .tracked) (hkm : k ≤ m) :
    ∃ s', extendIter m s = (.error (.user "next"), s') ∧ Inv s'.buf ∧
      abs s'.buf = (Spec.pushMany s.buf.cap (abs s.buf) (newElems s.next k)).1 ∧
      s'.buf.cap = s.buf.cap ∧ s'.next = s.next + k := by
  obtain ⟨j, rfl⟩ : ∃ j, m = k + j := ⟨m - k, by omega⟩
  obtain ⟨s1, r1, a1⟩ := pushAll_produce "next" k (At.self h) hk hd
    (Or.inr (by show k < s.faults.next; omega))
  have hp := extendIter_panics j s1
    (by rw [a1.faults_eq]; show s.faults.next - k = 1; omega)
  rw [extendIter_add, bind_run, r1]
  exact ⟨_, hp, a1.inv, a1.abs_eq, a1.cap_eq, a1.next_eq⟩

theorem C06_eq_readonly (other : CB) (s : Sys) : (eqBuf other s).2.buf = s.buf :=
  eqBuf_readonly other s

end CircBuf

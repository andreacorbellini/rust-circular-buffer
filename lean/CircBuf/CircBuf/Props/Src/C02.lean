import CircBuf.Lemmas.Tie.Live
import CircBuf.Lemmas.Tie.PushPop
import CircBuf.Lemmas.NonDefect
import CircBuf.Props.C02
/-!
# C02 — single-element insertion never loses an element silently — about the *translated source*

The same theorems as in `Props/C02.lean`, with the model's function replaced by the definition translated from the
Rust body on this run; how they are carried over is said in `Props/Src/C01.lean`.
-/
namespace CircBuf

maybe theorem C02_push_back_src (s : Sys) (x : Elem) (h : Inv s.buf) :
    ∃ b', Gen.push_back x s = (.ok (displacedBack s.buf.cap (abs s.buf) x), { s with buf := b' }) ∧
      Inv b' ∧ b'.cap = s.buf.cap ∧
      abs b' = (if s.buf.cap = 0 then abs s.buf
                else if (abs s.buf).length = s.buf.cap then (abs s.buf).tail ++ [x]
                else abs s.buf ++ [x]) := by
  exact LiveEq.ex4 (ltie_push_back _ s h (nd_pushBack _ s h)) (C02_push_back s x h)

maybe theorem C02_push_front_src (s : Sys) (x : Elem) (h : Inv s.buf) :
    ∃ b', Gen.push_front x s = (.ok (displacedFront s.buf.cap (abs s.buf) x), { s with buf := b' }) ∧
      Inv b' ∧ b'.cap = s.buf.cap ∧
      abs b' = (if s.buf.cap = 0 then abs s.buf
                else if (abs s.buf).length = s.buf.cap then x :: (abs s.buf).dropLast
                else x :: abs s.buf) := by
  exact LiveEq.ex4 (ltie_push_front _ s h (nd_pushFront _ s h)) (C02_push_front s x h)

maybe theorem C02_try_push_back_src (s : Sys) (x : Elem) (h : Inv s.buf) :
    (s.buf.size = s.buf.cap → Gen.try_push_back x s = (.ok (.error x), s)) ∧
    (s.buf.size ≠ s.buf.cap → ∃ b', Gen.try_push_back x s = (.ok (.ok ()), { s with buf := b' }) ∧
        Inv b' ∧ b'.cap = s.buf.cap ∧ abs b' = abs s.buf ++ [x] ∧ b'.size = s.buf.size + 1) := by
  rw [tie_try_push_back _ s h (nd_tryPushBack _ s h)]; exact C02_try_push_back s x h

maybe theorem C02_try_push_front_src (s : Sys) (x : Elem) (h : Inv s.buf) :
    (s.buf.size = s.buf.cap → Gen.try_push_front x s = (.ok (.error x), s)) ∧
    (s.buf.size ≠ s.buf.cap → ∃ b', Gen.try_push_front x s = (.ok (.ok ()), { s with buf := b' }) ∧
        Inv b' ∧ b'.cap = s.buf.cap ∧ abs b' = x :: abs s.buf ∧ b'.size = s.buf.size + 1) := by
  rw [tie_try_push_front _ s h (nd_tryPushFront _ s h)]; exact C02_try_push_front s x h

end CircBuf

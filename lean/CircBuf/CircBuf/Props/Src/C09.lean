import CircBuf.Lemmas.Tie.DrainTie
import CircBuf.Props.C09
import CircBuf.Props.C10
import CircBuf.Props.C01
import CircBuf.Props.C05
import CircBuf.Props.C20
/-!
# C09 / C10 — the draining iterator: the theorems of `Props/C09.lean` about creating and stepping a drain, and the leak-safety theorem of `Props/C10.lean`, restated about the *translated source*

`Generated/Core.lean` is regenerated on every run (translator T3, `/verif/translate/t3_core.py`); from
`/repo/src/drain.rs` it takes `Drain::over_range`, `Drain::read`, `as_slices`, `as_mut_slices`, `Iterator::next`,
`DoubleEndedIterator::next_back`, `ExactSizeIterator::len` and `Drop::drop` (`Gen.Drain_*`).  Each theorem below is the
property theorem of the same name (without `_src`) with the hand-written model function replaced by
the translated definition, carried over along the ties of `Lemmas/Tie/DrainTie.lean`.  The `while` loop of `drop` is the fuelled loop `whileFuel` over one translated
iteration (`Gen.Drain_drop_step`), tied to the model's `backfillLoop` for every amount of fuel
(`tie_drain_drop_loop`, by the congruence `whileFuel_congr` of `Lemmas/While.lean`).
-/
namespace CircBuf

/-- a drain that is alive meets the side conditions of `tie_drain_drop` (`tie`: that theorem at `d`, `s`) -/
theorem DrainInv.drop_tie {b0 : CB} {d : Drain} {s : Sys} (hd : DrainInv b0 d s) {G : M Unit}
    (tie : Inv s.buf → d.rs ≤ s.buf.cap → d.re ≤ s.buf.cap → d.re ≤ d.bufSize → G s = Drain.drop d s) :
    G s = Drain.drop d s := by
  have h1 := hd.h1; have h2 := hd.h2; have h3 := hd.h3; have hre := hd.re_le
  have hs := hd.inv0.size_le
  have hc := hd.cap_eq
  exact tie (C10_forget_safe b0 d s hd).1 (by omega) (by omega) hd.h4

maybe theorem C09_new_src (sb eb : Bound) (s : Sys) (h : Inv s.buf) (hsb : sb.val < W)
    (heb : eb.val < W) (he : eb.endNat s.buf.size ≤ s.buf.size)
    (hs : sb.startNat ≤ eb.endNat s.buf.size) :
    Gen.Drain_over_range sb eb s =
      (.ok ⟨s.buf.size, sb.startNat, eb.endNat s.buf.size, sb.startNat, eb.endNat s.buf.size⟩,
        { s with buf := ⟨s.buf.cap, 0, s.buf.start, s.buf.items⟩ }) ∧
    DrainInv s.buf ⟨s.buf.size, sb.startNat, eb.endNat s.buf.size, sb.startNat, eb.endNat s.buf.size⟩
      { s with buf := ⟨s.buf.cap, 0, s.buf.start, s.buf.items⟩ } := by
  rw [tie_drain_over_range]; exact C09_new sb eb s h hsb heb he hs

maybe theorem C09_next_src (b0 : CB) (d : Drain) (s : Sys) (hd : DrainInv b0 d s) :
    Gen.Drain_next d s = (.ok (((abs b0).drop d.is).take (d.ie - d.is) |>.head?,
      { d with is := d.is + (if d.is < d.ie then 1 else 0) }), s) ∧
    DrainInv b0 { d with is := d.is + (if d.is < d.ie then 1 else 0) } s := by
  rw [tie_drain_next]; exact C09_next b0 d s hd

maybe theorem C09_next_back_src (b0 : CB) (d : Drain) (s : Sys) (hd : DrainInv b0 d s) :
    Gen.Drain_next_back d s = (.ok (((abs b0).drop d.is).take (d.ie - d.is) |>.getLast?,
      { d with ie := d.ie - (if d.is < d.ie then 1 else 0) }), s) ∧
    DrainInv b0 { d with ie := d.ie - (if d.is < d.ie then 1 else 0) } s := by
  rw [tie_drain_next_back]; exact C09_next_back b0 d s hd

maybe theorem C09_len_src (b0 : CB) (d : Drain) (s : Sys) (hd : DrainInv b0 d s) :
    Gen.Drain_len d s = (.ok (((abs b0).drop d.is).take (d.ie - d.is)).length, s) := by
  rw [tie_drain_len, C09_len b0 d s hd]

maybe /-- what `Drop for Drain` destroys and `Debug for Drain` prints: the two slices of the translated
`as_mut_slices` / `as_slices` designate exactly the slots of the elements not yet yielded, in order -/
theorem C09_as_mut_slices_src (b0 : CB) (d : Drain) (s : Sys) (hd : DrainInv b0 d s) :
    ∃ r l, Gen.Drain_as_mut_slices d s = (.ok (r, l), s) ∧
      r.slots ++ l.slots = windowSlots (phys b0.start b0.cap d.is) b0.cap (d.ie - d.is) := by
  rw [tie_drain_as_mut_slices d s (C10_forget_safe b0 d s hd).1]; exact Drain.asSlices_spec b0 d s hd

maybe theorem C09_as_slices_src (b0 : CB) (d : Drain) (s : Sys) (hd : DrainInv b0 d s) :
    ∃ r l, Gen.Drain_as_slices d s = (.ok (r, l), s) ∧
      r.slots ++ l.slots = windowSlots (phys b0.start b0.cap d.is) b0.cap (d.ie - d.is) := by
  rw [tie_drain_as_slices d s (C10_forget_safe b0 d s hd).1]; exact Drain.asSlices_spec b0 d s hd

maybe /-- **dropping the drain, on the translated `Drop for Drain`** (the explicit drops of the two guards,
`CircularSlicePtr`, the back-fill loop as a recursive definition on its fuel — `tie_drain_drop_loop` ties it
to the model's loop for every amount of fuel by induction) -/
theorem C09_drop_src (b0 : CB) (d : Drain) (s : Sys) (hd : DrainInv b0 d s) (hf : s.faults.drop = 0) :
    ∃ b', Gen.Drain_drop d s = (.ok (), { s with
        buf := b'
        log := dropEvents s.kind (((abs b0).drop d.is).take (d.ie - d.is)) ++ s.log }) ∧
      Inv b' ∧ abs b' = (abs b0).take d.rs ++ (abs b0).drop d.re ∧ b'.cap = b0.cap ∧
      b'.start = b0.start ∧
      (∀ i, i < d.rs → b'.items (phys b0.start b0.cap i) = b0.items (phys b0.start b0.cap i)) := by
  rw [hd.drop_tie (tie_drain_drop d s)]; exact C09_drop b0 d s hd hf

maybe theorem C01_drain_src (b0 : CB) (d : Drain) (s : Sys) (hd : DrainInv b0 d s) (hf : s.faults.drop = 0) :
    ∃ b', (Gen.Drain_drop d s).1 = .ok () ∧ (Gen.Drain_drop d s).2.buf = b' ∧ Inv b' ∧
      abs b' = (Spec.drain (abs b0) d.rs d.re).2 ∧ b'.cap = b0.cap := by
  rw [hd.drop_tie (tie_drain_drop d s)]; exact C01_drain b0 d s hd hf

maybe theorem C05_drain_drop_src (b0 : CB) (d : Drain) (s : Sys) (hd : DrainInv b0 d s)
    (hk : ¬ (s.kind = .byte ∨ s.kind = .plain))
    (hfire : 1 ≤ s.faults.drop ∧ s.faults.drop ≤ d.ie - d.is) :
    ∃ s', Gen.Drain_drop d s = (.error (.user "drop"), s') ∧ s'.buf = s.buf ∧
      s'.log = dropEvents s.kind (((abs b0).drop d.is).take (d.ie - d.is)) ++ s.log := by
  rw [hd.drop_tie (tie_drain_drop d s)]; exact C05_drain_drop b0 d s hd hk hfire

maybe theorem C20_drain_src (b0 : CB) (d : Drain) (s : Sys) (hd : DrainInv b0 d s) (hf : s.faults.drop = 0) :
    ∃ b', (Gen.Drain_drop d s).2.buf = b' ∧ b'.start = b0.start ∧
      (∀ i, i < d.rs → b'.items (phys b0.start b0.cap i) = b0.items (phys b0.start b0.cap i)) := by
  rw [hd.drop_tie (tie_drain_drop d s)]; exact C20_drain b0 d s hd hf

maybe /-- **leak safety, on the translated constructor**: in the state `Drain::over_range` leaves behind — the
state a forgotten drain leaves for good — the buffer satisfies the invariant and is empty -/
theorem C10_forget_safe_src (sb eb : Bound) (s : Sys) (h : Inv s.buf) (hsb : sb.val < W)
    (heb : eb.val < W) (he : eb.endNat s.buf.size ≤ s.buf.size)
    (hs : sb.startNat ≤ eb.endNat s.buf.size) :
    ∃ d s', Gen.Drain_over_range sb eb s = (.ok d, s') ∧
      Inv s'.buf ∧ abs s'.buf = [] ∧ s'.buf.size = 0 ∧ s'.buf.cap = s.buf.cap := by
  obtain ⟨e, hd⟩ := C09_new_src sb eb s h hsb heb he hs
  exact ⟨_, _, e, C10_forget_safe _ _ _ hd⟩

end CircBuf

import CircBuf.Lemmas.Tie.Access
import CircBuf.Lemmas.Tie.Remove
import CircBuf.Lemmas.NonDefect
import CircBuf.Props.C07
/-!
# C07 — element access returns the element at that logical position — about the *translated source*

The same theorems as in `Props/C07.lean`, with the model's function replaced by the definition translated from the
Rust body on this run; how they are carried over is said in `Props/Src/C01.lean`.
-/
namespace CircBuf

maybe theorem C07_get_src (s : Sys) (i : Nat) (h : Inv s.buf) :
    Gen.get i s = (.ok (if i < s.buf.size then some (phys s.buf.start s.buf.cap i) else none), s) := by
  rw [tie_get _ s h (nd_get _ s h)]; exact C07_get s i h

maybe theorem C07_front_src (s : Sys) (h : Inv s.buf) :
    Gen.front s = (.ok (if 0 < s.buf.size then some s.buf.start else none), s) := by
  rw [tie_front s h (nd_front s h)]; exact C07_front s h

maybe theorem C07_back_src (s : Sys) (h : Inv s.buf) :
    Gen.back s = (.ok (if 0 < s.buf.size then some (phys s.buf.start s.buf.cap (s.buf.size - 1))
      else none), s) := by
  rw [tie_back s h (nd_back s h)]; exact C07_back s h

maybe theorem C07_nth_back_src (s : Sys) (i : Nat) (h : Inv s.buf) :
    Gen.nth_back i s = (.ok (if i < s.buf.size then some (phys s.buf.start s.buf.cap (s.buf.size - 1 - i))
      else none), s) := by
  rw [tie_nth_back _ s h (nd_nthBack _ s h)]; exact C07_nth_back s i h

maybe theorem C07_make_contiguous_src (s : Sys) (h : Inv s.buf) :
    ∃ b' v, Gen.make_contiguous s = (.ok v, { s with buf := b' }) ∧ Inv b' ∧ abs b' = abs s.buf ∧
      b'.cap = s.buf.cap ∧ b'.size = s.buf.size ∧
      v.slots = windowSlots b'.start b'.cap b'.size ∧
      (b'.start + b'.size ≤ b'.cap) ∧
      (s.buf.start + s.buf.size ≤ s.buf.cap → b' = s.buf) := by
  rw [tie_make_contiguous s h (nd_makeContiguous s h)]; exact C07_make_contiguous s h

end CircBuf

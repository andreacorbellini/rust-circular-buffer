import CircBuf.Lemmas.Tie.Truncate
import CircBuf.Lemmas.NonDefect
import CircBuf.Props.C05
/-!
# C05 — a panicking element destructor never causes a second drop or a corrupt buffer — about the *translated source*

The same theorems as in `Props/C05.lean`, with the model's function replaced by the definition translated from the
Rust body on this run; how they are carried over is said in `Props/Src/C01.lean`.
-/
namespace CircBuf

maybe theorem C05_drop_range_src (s : Sys) (rs re : Nat) (h : Inv s.buf)
    (hk : ¬ (s.kind = .byte ∨ s.kind = .plain))
    (h1 : rs < re) (h2 : re ≤ s.buf.size) (h3 : rs = 0 ∨ re = s.buf.size) :
    Gen.drop_range (rs, re) s = (dropOutcome s.faults.drop (re - rs),
      { s with
        buf := shrink s.buf rs re
        log := dropEvents s.kind (((abs s.buf).drop rs).take (re - rs)) ++ s.log
        faults := { s.faults with drop := s.faults.drop - (re - rs) } }) := by
  rw [tie_drop_range _ _ s h (nd_dropRange _ _ s h h1 h2 h3)]; exact C05_drop_range s rs re h hk h1 h2 h3

maybe theorem C05_truncate_back_src (s : Sys) (n : Nat) (h : Inv s.buf)
    (hk : ¬ (s.kind = .byte ∨ s.kind = .plain)) :
    ∃ s', Gen.truncate_back n s = (dropOutcome s.faults.drop (s.buf.size - n), s') ∧
      PostDrop s s' ((abs s.buf).take n) ((abs s.buf).drop n) := by
  rw [tie_truncate_back _ s h (nd_truncateBack _ s h)]; exact C05_truncate_back s n h hk

maybe theorem C05_truncate_front_src (s : Sys) (n : Nat) (h : Inv s.buf)
    (hk : ¬ (s.kind = .byte ∨ s.kind = .plain)) :
    ∃ s', Gen.truncate_front n s = (dropOutcome s.faults.drop (s.buf.size - n), s') ∧
      PostDrop s s' (Spec.lastN n (abs s.buf)) ((abs s.buf).take ((abs s.buf).length - n)) := by
  rw [tie_truncate_front _ s h (nd_truncateFront _ s h)]; exact C05_truncate_front s n h hk

maybe theorem C05_clear_src (s : Sys) (h : Inv s.buf) (hk : ¬ (s.kind = .byte ∨ s.kind = .plain)) :
    ∃ s', Gen.clear s = (dropOutcome s.faults.drop s.buf.size, s') ∧ PostDrop s s' [] (abs s.buf) := by
  rw [tie_clear s h (nd_clear s h)]; exact C05_clear s h hk

end CircBuf

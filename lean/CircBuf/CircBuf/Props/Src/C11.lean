import CircBuf.Lemmas.Tie.IterTie
import CircBuf.Lemmas.Tie.Live
import CircBuf.Lemmas.Tie.Swap
import CircBuf.Lemmas.NonDefect
import CircBuf.Props.C11
/-!
# C11 — documented panics of `swap` and of the range translation — about the *translated source*

The same theorems as in `Props/C11.lean`, with the model's function replaced by the definition translated from the
Rust body on this run; how they are carried over is said in `Props/Src/C01.lean`.
-/
namespace CircBuf

maybe theorem C11_swap_ok_src (s : Sys) (i j : Nat) (h : Inv s.buf) (hi : i < s.buf.size) (hj : j < s.buf.size) :
    Refines (Gen.swap i j) s () (Spec.swap (abs s.buf) i j) := by
  exact Refines.of_liveEq (ltie_swap _ _ s h (nd_swap _ _ s h)) (C11_swap_ok s i j h hi hj)

maybe theorem C11_swap_panics_i_src (s : Sys) (i j : Nat) (hi : ¬ i < s.buf.size) :
    Gen.swap i j s = (.error (.doc "swap_i"), s) :=
  gen_swap_panics_i s i j hi

maybe theorem C11_swap_panics_j_src (s : Sys) (i j : Nat) (hi : i < s.buf.size) (hj : ¬ j < s.buf.size) :
    Gen.swap i j s = (.error (.doc "swap_j"), s) :=
  gen_swap_panics_j s i j hi hj

maybe theorem C11_range_ok_src (sb eb : Bound) (s : Sys) (hsb : sb.val < W) (heb : eb.val < W)
    (he : eb.endNat s.buf.size ≤ s.buf.size) (hs : sb.startNat ≤ eb.endNat s.buf.size)
    (hW : s.buf.size < W) :
    Gen.translate_range_bounds sb eb s = (.ok (sb.startNat, eb.endNat s.buf.size), s) := by
  rw [tie_translate_range_bounds _ _ s]; exact C11_range_ok sb eb s hsb heb he hs hW

maybe theorem C11_range_panics_src (sb eb : Bound) (s : Sys) (hsb : sb.val < W) (heb : eb.val < W)
    (hW : s.buf.size < W)
    (hbad : s.buf.size < eb.endNat s.buf.size ∨ eb.endNat s.buf.size < sb.startNat) :
    ∃ k, Gen.translate_range_bounds sb eb s = (.error (.doc k), s) := by
  rw [tie_translate_range_bounds _ _ s]; exact C11_range_panics sb eb s hsb heb hW hbad

end CircBuf

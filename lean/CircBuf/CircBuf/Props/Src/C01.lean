import CircBuf.Lemmas.Tie.Live
import CircBuf.Lemmas.Tie.PushPop
import CircBuf.Lemmas.Tie.Remove
import CircBuf.Lemmas.Tie.Swap
import CircBuf.Lemmas.Tie.Truncate
import CircBuf.Lemmas.NonDefect
import CircBuf.Props.C01
/-!
# C01 — queue semantics (contents, order, length, return value) of the element-level core: the theorems of `Props/C01.lean`, restated about the *translated source*

`Generated/Core.lean` is regenerated from `/repo/src/{lib,iter,drain}.rs` on every run (translator T3,
`/verif/translate/t3_core.py`).  Each theorem below is the property theorem of the same name
(without `_src`) with the hand-written model function replaced by the definition translated from
the Rust body (`Gen.push_back` for `pushBack`, ...), carried over along the tie theorems of
`Lemmas/Tie/*.lean`.  A change to one of these Rust functions changes `Gen.*`; the tie, and with it
the `_src` theorem, is then re-proved by Lean on that run — or stops checking.
-/
namespace CircBuf

maybe theorem C01_push_back_src (s : Sys) (x : Elem) (h : Inv s.buf) :
    Refines (Gen.push_back x) s (Spec.pushBack s.buf.cap (abs s.buf) x).2
      (Spec.pushBack s.buf.cap (abs s.buf) x).1 := by
  exact Refines.of_liveEq (ltie_push_back _ s h (nd_pushBack _ s h)) (C01_push_back s x h)

maybe theorem C01_push_front_src (s : Sys) (x : Elem) (h : Inv s.buf) :
    Refines (Gen.push_front x) s (Spec.pushFront s.buf.cap (abs s.buf) x).2
      (Spec.pushFront s.buf.cap (abs s.buf) x).1 := by
  exact Refines.of_liveEq (ltie_push_front _ s h (nd_pushFront _ s h)) (C01_push_front s x h)

maybe theorem C01_try_push_back_src (s : Sys) (x : Elem) (h : Inv s.buf) :
    Refines (Gen.try_push_back x) s (Spec.tryPushBack s.buf.cap (abs s.buf) x).2
      (Spec.tryPushBack s.buf.cap (abs s.buf) x).1 := by
  exact Refines.of_liveEq (ltie_try_push_back _ s h (nd_tryPushBack _ s h)) (C01_try_push_back s x h)

maybe theorem C01_try_push_front_src (s : Sys) (x : Elem) (h : Inv s.buf) :
    Refines (Gen.try_push_front x) s (Spec.tryPushFront s.buf.cap (abs s.buf) x).2
      (Spec.tryPushFront s.buf.cap (abs s.buf) x).1 := by
  exact Refines.of_liveEq (ltie_try_push_front _ s h (nd_tryPushFront _ s h)) (C01_try_push_front s x h)

maybe theorem C01_pop_back_src (s : Sys) (h : Inv s.buf) :
    Refines Gen.pop_back s (Spec.popBack (abs s.buf)).2 (Spec.popBack (abs s.buf)).1 := by
  exact Refines.of_liveEq (ltie_pop_back s h (nd_popBack s h)) (C01_pop_back s h)

maybe theorem C01_pop_front_src (s : Sys) (h : Inv s.buf) :
    Refines Gen.pop_front s (Spec.popFront (abs s.buf)).2 (Spec.popFront (abs s.buf)).1 := by
  exact Refines.of_liveEq (ltie_pop_front s h (nd_popFront s h)) (C01_pop_front s h)

maybe theorem C01_swap_src (s : Sys) (i j : Nat) (h : Inv s.buf) (hi : i < s.buf.size) (hj : j < s.buf.size) :
    Refines (Gen.swap i j) s () (Spec.swap (abs s.buf) i j) := by
  exact Refines.of_liveEq (ltie_swap _ _ s h (nd_swap _ _ s h)) (C01_swap s i j h hi hj)

maybe theorem C01_swap_remove_back_src (s : Sys) (i : Nat) (h : Inv s.buf) :
    Refines (Gen.swap_remove_back i) s (Spec.swapRemoveBack (abs s.buf) i).2
      (Spec.swapRemoveBack (abs s.buf) i).1 := by
  exact Refines.of_liveEq (ltie_swap_remove_back _ s h (nd_swapRemoveBack _ s h)) (C01_swap_remove_back s i h)

maybe theorem C01_swap_remove_front_src (s : Sys) (i : Nat) (h : Inv s.buf) :
    Refines (Gen.swap_remove_front i) s (Spec.swapRemoveFront (abs s.buf) i).2
      (Spec.swapRemoveFront (abs s.buf) i).1 := by
  exact Refines.of_liveEq (ltie_swap_remove_front _ s h (nd_swapRemoveFront _ s h)) (C01_swap_remove_front s i h)

maybe theorem C01_truncate_back_src (s : Sys) (n : Nat) (h : Inv s.buf) (hf : s.faults.drop = 0) :
    RefinesL (Gen.truncate_back n) s () (Spec.truncateBack (abs s.buf) n)
      (dropEvents s.kind ((abs s.buf).drop n)) := by
  exact RefinesL.congr (tie_truncate_back _ s h (nd_truncateBack _ s h)) (C01_truncate_back s n h hf)

maybe theorem C01_truncate_front_src (s : Sys) (n : Nat) (h : Inv s.buf) (hf : s.faults.drop = 0) :
    RefinesL (Gen.truncate_front n) s () (Spec.truncateFront (abs s.buf) n)
      (dropEvents s.kind ((abs s.buf).take ((abs s.buf).length - n))) := by
  exact RefinesL.congr (tie_truncate_front _ s h (nd_truncateFront _ s h)) (C01_truncate_front s n h hf)

maybe theorem C01_clear_src (s : Sys) (h : Inv s.buf) (hf : s.faults.drop = 0) :
    RefinesL Gen.clear s () [] (dropEvents s.kind (abs s.buf)) := by
  exact RefinesL.congr (tie_clear s h (nd_clear s h)) (C01_clear s h hf)

maybe theorem C01_remove_src (s : Sys) (i : Nat) (h : Inv s.buf) :
    Refines (Gen.remove i) s (Spec.remove (abs s.buf) i).2 (Spec.remove (abs s.buf) i).1 := by
  exact Refines.of_liveEq (ltie_remove _ s h (nd_remove _ s h)) (C01_remove s i h)

maybe theorem C01_make_contiguous_src (s : Sys) (h : Inv s.buf) :
    ∃ b' v, Gen.make_contiguous s = (.ok v, { s with buf := b' }) ∧ Inv b' ∧ abs b' = abs s.buf ∧
      b'.cap = s.buf.cap := by
  rw [tie_make_contiguous s h (nd_makeContiguous s h)]; exact C01_make_contiguous s h

end CircBuf

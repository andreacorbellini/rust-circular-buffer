import CircBuf.Lemmas.Tie.Fill
import CircBuf.Props.C01
import CircBuf.Props.C06
/-!
# C01 / C06 — the closure-calling operations `fill_spare_with` and `fill_with`, restated about the *translated source*

`Gen.fill_spare_with` / `Gen.fill_with` are translated on every run from `/repo/src/lib.rs`: the closure
`f()` is the primitive `produceElem "call"` (user code: it may panic, once, at any call), the `Option<T>`
returned by `push_back` and not used is destroyed (`dropOpt`), the `while self.size < N` loop is the
fuelled loop `whileM` of `Mem.lean` over the translated body.  The ties are in `Lemmas/Tie/Fill.lean`.
-/
namespace CircBuf

maybe /-- `fill_spare_with(f)`: the free space is filled with the closure's results, in call order -/
theorem C01_fill_spare_with_src (s : Sys) (h : Inv s.buf) (hd : s.faults.drop = 0)
    (hc : s.faults.call = 0) (hk : s.kind = .tracked) :
    Runs Gen.fill_spare_with s () (abs s.buf ++ newElems s.next (s.buf.cap - s.buf.size))
      ((newElems s.next (s.buf.cap - s.buf.size)).reverse.map fun e => Event.given e.id)
      (s.buf.cap - s.buf.size) := by
  have h0 := C01_fill_spare_with s h hd hc hk
  unfold Runs at h0 ⊢
  rw [tie_fill_spare_with s h]; exact h0

maybe /-- `fill_with(f)`: old contents destroyed, the buffer is full of the closure's results -/
theorem C01_fill_with_src (s : Sys) (h : Inv s.buf) (hd : s.faults.drop = 0)
    (hc : s.faults.call = 0) (hk : s.kind = .tracked) :
    Runs Gen.fill_with s () (newElems s.next s.buf.cap)
      (((newElems s.next s.buf.cap).reverse.map fun e => Event.given e.id) ++
        dropEvents s.kind (abs s.buf)) s.buf.cap := by
  have h0 := C01_fill_with s h hd hc hk
  unfold Runs at h0 ⊢
  have hI : ∀ s1, clear s = (.ok (), s1) → Inv s1.buf ∧ s1.buf.cap = s.buf.cap := by
    intro s1 e1
    obtain ⟨b', e2, hI', _, hcap⟩ := clear_spec s h hd
    rw [e2] at e1
    have : s1 = _ := ((Prod.mk.inj e1).2).symm
    subst this
    exact ⟨hI', hcap⟩
  rw [tie_fill_with s h (nd_clear s h) hI]; exact h0

maybe /-- **a panic in the closure** (its `k+1`-st call, for every `k` below the free space): the translated
`fill_spare_with` propagates it and leaves a buffer that satisfies the invariant and holds the old
contents followed by the `k` elements produced so far — nothing is lost, nothing is duplicated -/
theorem C06_closure_src (s : Sys) (k : Nat) (h : Inv s.buf)
    (hd : s.faults.drop = 0) (hc : s.faults.call = k + 1) (hk : s.kind = .tracked)
    (hkf : k < s.buf.cap - s.buf.size) :
    ∃ s', Gen.fill_spare_with s = (.error (.user "call"), s') ∧ Inv s'.buf ∧
      abs s'.buf = abs s.buf ++ newElems s.next k ∧ s'.buf.cap = s.buf.cap ∧ s'.next = s.next + k := by
  rw [tie_fill_spare_with s h]
  have hcap : ¬ s.buf.cap = 0 := by omega
  have e : fillSpareWith s = fillSpareWithLoop (s.buf.cap - s.buf.size) s := by
    simp only [fillSpareWith, bind_run, getBuf_run, ite_run, hcap, if_false]
  rw [e]
  exact C06_closure (s.buf.cap - s.buf.size) s k h hd hc hk rfl hkf

end CircBuf

import CircBuf.Props.Src.C01
import CircBuf.Props.C04
/-!
# C04 — behaviour is independent of the physical layout — about the *translated source*

The same theorems as in `Props/C04.lean`, with the model's function replaced by the definition translated from the
Rust body on this run.  Like the originals they are instances of `C04_indep`, which asks of the operation only that it
refines a function of `(capacity, contents)`: that is what `C01_*_src` (`Props/Src/C01.lean`) says of the translated
definition, along its tie.
-/
namespace CircBuf

maybe theorem C04_push_back_src (x : Elem) (s1 s2 : Sys) (h1 : Inv s1.buf) (h2 : Inv s2.buf)
    (hcap : s1.buf.cap = s2.buf.cap) (habs : abs s1.buf = abs s2.buf) :
    ∃ r b1 b2, Gen.push_back x s1 = (.ok r, { s1 with buf := b1 }) ∧
      Gen.push_back x s2 = (.ok r, { s2 with buf := b2 }) ∧
      Inv b1 ∧ Inv b2 ∧ abs b1 = abs b2 ∧ b1.cap = b2.cap :=
  C04_indep (Gen.push_back x) (fun c xs => (Spec.pushBack c xs x).2) (fun c xs => (Spec.pushBack c xs x).1)
    (fun s h => C01_push_back_src s x h) s1 s2 h1 h2 hcap habs

maybe theorem C04_push_front_src (x : Elem) (s1 s2 : Sys) (h1 : Inv s1.buf) (h2 : Inv s2.buf)
    (hcap : s1.buf.cap = s2.buf.cap) (habs : abs s1.buf = abs s2.buf) :
    ∃ r b1 b2, Gen.push_front x s1 = (.ok r, { s1 with buf := b1 }) ∧
      Gen.push_front x s2 = (.ok r, { s2 with buf := b2 }) ∧
      Inv b1 ∧ Inv b2 ∧ abs b1 = abs b2 ∧ b1.cap = b2.cap :=
  C04_indep (Gen.push_front x) (fun c xs => (Spec.pushFront c xs x).2) (fun c xs => (Spec.pushFront c xs x).1)
    (fun s h => C01_push_front_src s x h) s1 s2 h1 h2 hcap habs

maybe theorem C04_pop_back_src (s1 s2 : Sys) (h1 : Inv s1.buf) (h2 : Inv s2.buf)
    (hcap : s1.buf.cap = s2.buf.cap) (habs : abs s1.buf = abs s2.buf) :
    ∃ r b1 b2, Gen.pop_back s1 = (.ok r, { s1 with buf := b1 }) ∧ Gen.pop_back s2 = (.ok r, { s2 with buf := b2 }) ∧
      Inv b1 ∧ Inv b2 ∧ abs b1 = abs b2 ∧ b1.cap = b2.cap :=
  C04_indep Gen.pop_back (fun _ xs => (Spec.popBack xs).2) (fun _ xs => (Spec.popBack xs).1)
    (fun s h => C01_pop_back_src s h) s1 s2 h1 h2 hcap habs

maybe theorem C04_pop_front_src (s1 s2 : Sys) (h1 : Inv s1.buf) (h2 : Inv s2.buf)
    (hcap : s1.buf.cap = s2.buf.cap) (habs : abs s1.buf = abs s2.buf) :
    ∃ r b1 b2, Gen.pop_front s1 = (.ok r, { s1 with buf := b1 }) ∧ Gen.pop_front s2 = (.ok r, { s2 with buf := b2 }) ∧
      Inv b1 ∧ Inv b2 ∧ abs b1 = abs b2 ∧ b1.cap = b2.cap :=
  C04_indep Gen.pop_front (fun _ xs => (Spec.popFront xs).2) (fun _ xs => (Spec.popFront xs).1)
    (fun s h => C01_pop_front_src s h) s1 s2 h1 h2 hcap habs

maybe theorem C04_swap_remove_back_src (i : Nat) (s1 s2 : Sys) (h1 : Inv s1.buf) (h2 : Inv s2.buf)
    (hcap : s1.buf.cap = s2.buf.cap) (habs : abs s1.buf = abs s2.buf) :
    ∃ r b1 b2, Gen.swap_remove_back i s1 = (.ok r, { s1 with buf := b1 }) ∧
      Gen.swap_remove_back i s2 = (.ok r, { s2 with buf := b2 }) ∧
      Inv b1 ∧ Inv b2 ∧ abs b1 = abs b2 ∧ b1.cap = b2.cap :=
  C04_indep (Gen.swap_remove_back i) (fun _ xs => (Spec.swapRemoveBack xs i).2) (fun _ xs => (Spec.swapRemoveBack xs i).1)
    (fun s h => C01_swap_remove_back_src s i h) s1 s2 h1 h2 hcap habs

maybe theorem C04_remove_src (i : Nat) (s1 s2 : Sys) (h1 : Inv s1.buf) (h2 : Inv s2.buf)
    (hcap : s1.buf.cap = s2.buf.cap) (habs : abs s1.buf = abs s2.buf) :
    ∃ r b1 b2, Gen.remove i s1 = (.ok r, { s1 with buf := b1 }) ∧ Gen.remove i s2 = (.ok r, { s2 with buf := b2 }) ∧
      Inv b1 ∧ Inv b2 ∧ abs b1 = abs b2 ∧ b1.cap = b2.cap :=
  C04_indep (Gen.remove i) (fun _ xs => (Spec.remove xs i).2) (fun _ xs => (Spec.remove xs i).1)
    (fun s h => C01_remove_src s i h) s1 s2 h1 h2 hcap habs

end CircBuf

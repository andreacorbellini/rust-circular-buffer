import CircBuf.Lemmas.Contig
import CircBuf.Lemmas.Drain
import CircBuf.Lemmas.Truncate
import CircBuf.Lemmas.Swap
import CircBuf.Lemmas.Remove
/-!
# C20 — documented constant-time operations move O(1) elements

An element is *relocated* when its storage cell changes.  `Frames op s changed` says that `op`
leaves every storage cell outside the list `changed` exactly as it was; an element whose cell is not
in `changed` therefore keeps its address, so at most `changed.length` surviving elements are
relocated:
* `push_back` / `push_front` (hence `try_push_*`, same code on the non-full branch): one cell;
* `pop_back` / `pop_front`, `truncate_*`, `clear`: no cell at all (the storage is not written);
* `swap`: two cells; `swap_remove_*` = `swap` + `pop`: two cells;
* `remove(i)`: the cells of logical positions `< i` are untouched and the front does not move, so
  only the `len - i - 1 ≤ len - i` elements behind `i` can be relocated;
* `drain(a..b)` + drop: the cells of logical positions `< a` are untouched and the front does not
  move; the `len - b` elements behind the range are the only ones that can be relocated;
* `make_contiguous` on contents that are already contiguous (`start + len ≤ cap`, which includes
  ending exactly at the array end) changes nothing at all.
Element access and `as_slices` do not modify the state (C07).
-/
namespace CircBuf

/-- `op` run in `s` succeeds, touches only the buffer, and leaves every storage cell outside
`changed` exactly as it was -/
def Frames (op : M α) (s : Sys) (changed : List Nat) : Prop :=
  ∃ r b', op s = (.ok r, { s with buf := b' }) ∧ ∀ q, q ∉ changed → b'.items q = s.buf.items q

theorem Frames.congr {op op' : M α} {s : Sys} {changed : List Nat} (h : op s = op' s)
    (h' : Frames op' s changed) : Frames op s changed := by
  unfold Frames; rw [h]; exact h'


theorem C20_push_back (s : Sys) (x : Elem) (h : Inv s.buf) :
    Frames (pushBack x) s
      [if s.buf.size < s.buf.cap then phys s.buf.start s.buf.cap s.buf.size else s.buf.start] := by
  by_cases hc : s.buf.cap = 0
  · exact ⟨_, _, pushBack_zero s x hc, fun _ _ => rfl⟩
  by_cases hroom : s.buf.size < s.buf.cap
  · refine ⟨_, _, pushBack_room s x h hroom, fun q hq => setCell_ne _ _ _ _ ?_⟩
    simpa [hroom] using hq
  · refine ⟨_, _, pushBack_full s x h (by omega) (by have := h.size_le; omega),
      fun q hq => setCell_ne _ _ _ _ ?_⟩
    simpa [hroom] using hq

theorem C20_push_front (s : Sys) (x : Elem) (h : Inv s.buf) :
    Frames (pushFront x) s [phys s.buf.start s.buf.cap (s.buf.cap - 1)] := by
  by_cases hc : s.buf.cap = 0
  · exact ⟨_, _, pushFront_zero s x hc, fun _ _ => rfl⟩
  by_cases hroom : s.buf.size < s.buf.cap
  · exact ⟨_, _, pushFront_room s x h hroom, fun q hq => setCell_ne _ _ _ _ (by simpa using hq)⟩
  · -- the back element of a full buffer sits in the slot before the front position
    have hfull : s.buf.size = s.buf.cap := by have := h.size_le; omega
    refine ⟨_, _, pushFront_full s x h (by omega) hfull, fun q hq => ?_⟩
    simp only [CB.rotFront, hfull]
    exact setCell_ne _ _ _ _ (by simpa using hq)

/-- `pop_back`, `pop_front` overwrite nothing -/
theorem C20_pop_back (s : Sys) (h : Inv s.buf) : Frames popBack s [] := by
  by_cases hz : s.buf.cap = 0 ∨ s.buf.size = 0
  · exact ⟨_, _, popBack_empty s hz, fun _ _ => rfl⟩
  · exact ⟨_, _, popBack_run s h (by omega), fun _ _ => rfl⟩

theorem C20_pop_front (s : Sys) (h : Inv s.buf) : Frames popFront s [] := by
  by_cases hz : s.buf.cap = 0 ∨ s.buf.size = 0
  · exact ⟨_, _, popFront_empty s hz, fun _ _ => rfl⟩
  · exact ⟨_, _, popFront_run s h (by omega), fun _ _ => rfl⟩

theorem C20_swap (s : Sys) (i j : Nat) (h : Inv s.buf) (hi : i < s.buf.size) (hj : j < s.buf.size) :
    Frames (swap i j) s [phys s.buf.start s.buf.cap i, phys s.buf.start s.buf.cap j] := by
  refine ⟨_, _, swap_run s i j h hi hj, fun q hq => ?_⟩
  simp only [List.mem_cons, List.not_mem_nil, or_false, not_or] at hq
  simp [swapCells, hq.1, hq.2]

/-- `remove(i)` leaves the cells of the logical positions before `i` untouched (and does not move
the front), so only the `len - i - 1` elements behind `i` can be relocated -/
theorem C20_remove (s : Sys) (index : Nat) (h : Inv s.buf) (hidx : index < s.buf.size) :
    ∃ r b', remove index s = (.ok r, { s with buf := b' }) ∧ b'.start = s.buf.start ∧
      ∀ i, i < index → b'.items (phys s.buf.start s.buf.cap i) = s.buf.items (phys s.buf.start s.buf.cap i) := by
  refine ⟨_, _, remove_run s index _ h hidx (abs_getElem s.buf h index (abs_length _ h ▸ hidx)), rfl,
    fun i hi => ?_⟩
  have := h.size_le
  exact ((removeItems_shifts s.buf index h hidx).1 i (by omega)).trans (by rw [if_neg (by omega)])

/-- `truncate_back` / `truncate_front` / `clear` never write to the storage -/
theorem C20_truncate (s : Sys) (rs re : Nat) (h : Inv s.buf) (hf : s.faults.drop = 0)
    (h1 : rs < re) (h2 : re ≤ s.buf.size) (h3 : rs = 0 ∨ re = s.buf.size) :
    ∃ s', dropRange rs re s = (.ok (), s') ∧ s'.buf.items = s.buf.items :=
  ⟨_, dropRange_run s rs re h hf h1 h2 h3, shrink_items ..⟩

theorem C20_drain (b0 : CB) (d : Drain) (s : Sys) (hd : DrainInv b0 d s) (hf : s.faults.drop = 0) :
    ∃ b', (d.drop s).2.buf = b' ∧ b'.start = b0.start ∧
      (∀ i, i < d.rs → b'.items (phys b0.start b0.cap i) = b0.items (phys b0.start b0.cap i)) := by
  obtain ⟨b', h1, _, _, _, h5, h6⟩ := Drain.drop_spec b0 d s hd hf
  exact ⟨b', by rw [h1], h5, h6⟩

theorem C20_make_contiguous (s : Sys) (h : Inv s.buf) (hc : s.buf.start + s.buf.size ≤ s.buf.cap) :
    ∃ v, makeContiguous s = (.ok v, s) := by
  obtain ⟨b', v, h1, _, _, _, _, _, _, h8⟩ := makeContiguous_spec s h
  obtain rfl := h8 hc
  exact ⟨v, h1⟩

end CircBuf

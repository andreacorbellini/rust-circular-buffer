import CircBuf.Lemmas.Truncate
import CircBuf.Lemmas.Fill
import CircBuf.Lemmas.Drain
import CircBuf.Lemmas.ExtendSlice
import CircBuf.Props.C09
/-!
# C05 — a panicking element destructor never causes a second drop or a corrupt buffer

The fault plan is a counter: "the `k`-th destructor call from now panics" (`faults.drop = k`, any
`k`; `k = 0` = none).  For **every** capacity, layout, argument and **every** `k`:
* `drop_range` — the only place where `truncate_back`, `truncate_front`, `clear`, `Drop`, and through
  them `fill`, `fill_with`, `extend_from_slice`, `clone_from`, the owning iterator's drop destroy
  elements — first shrinks the buffer and then destroys every element of the range **exactly once**
  (the ledger grows by one `dropped` event per element of the range, in order, whatever `k` is);
  only the result value tells whether a destructor panicked (`dropOutcome`);
* hence after `truncate_back` / `truncate_front` / `clear` — normal return *or* caught panic — the
  buffer satisfies the invariant and holds exactly the kept elements (`PostDrop`), so every later
  operation, including the final drop, behaves normally (all other theorems only assume `Inv`);
  no element can be destroyed a second time because none of the destroyed ones is in the buffer;
* dropping a drain whose destructor call panics: all not-yet-yielded elements are still destroyed
  exactly once, the buffer stays in its empty state (valid; the flanks are leaked, not duplicated).
* `fill(value)` (`C05_fill`): when a destructor panics while the old contents are cleared, every old
  element was still destroyed exactly once, `value` (owned by the callee) is destroyed exactly once,
  and the buffer is left empty and valid.
* `clone_from(other)` (`C05_clone_from`): a destructor panic while the old contents are cleared
  propagates before anything is cloned; every old element was destroyed exactly once; the buffer is
  empty and valid.
* `From<[T; M]>` (`C05_from_array`): a destructor panic while the surplus `M - N` elements of the array
  are destroyed — every surplus element is still destroyed exactly once, and the buffer under
  construction is dropped during unwinding, destroying each kept element exactly once: all `M`
  elements exactly once, none twice (the defect F4 of the unrepaired code, as a theorem about the
  repaired code).
`fill_with`, `extend_from_slice` are covered by the fault-plan
correspondence (every operation × every layout × every `k`) and the ledger oracle.
-/
namespace CircBuf

/-- `drop_range` under any destructor fault: the buffer is shrunk, every element of the range is
destroyed exactly once; only the result tells whether a destructor panicked -/
theorem C05_drop_range (s : Sys) (rs re : Nat) (h : Inv s.buf)
    (hk : ¬ (s.kind = .byte ∨ s.kind = .plain))
    (h1 : rs < re) (h2 : re ≤ s.buf.size) (h3 : rs = 0 ∨ re = s.buf.size) :
    dropRange rs re s = (dropOutcome s.faults.drop (re - rs),
      { s with
        buf := shrink s.buf rs re
        log := dropEvents s.kind (((abs s.buf).drop rs).take (re - rs)) ++ s.log
        faults := { s.faults with drop := s.faults.drop - (re - rs) } }) := by
  have hl : (((abs s.buf).drop rs).take (re - rs)).length = re - rs := by
    rw [List.length_take, List.length_drop, abs_length s.buf h]; omega
  rw [dropRange_eq s rs re h h1 h2 h3, dropAll_destructor _ { s with buf := shrink s.buf rs re } hk, hl]

theorem C05_truncate_back (s : Sys) (n : Nat) (h : Inv s.buf)
    (hk : ¬ (s.kind = .byte ∨ s.kind = .plain)) :
    ∃ s', truncateBack n s = (dropOutcome s.faults.drop (s.buf.size - n), s') ∧
      PostDrop s s' ((abs s.buf).take n) ((abs s.buf).drop n) :=
  let ⟨s', e, p, _⟩ := (truncateBack_destroys s n h).postDrop hk (by simp [abs_length s.buf h])
  ⟨s', e, p⟩

theorem C05_truncate_front (s : Sys) (n : Nat) (h : Inv s.buf)
    (hk : ¬ (s.kind = .byte ∨ s.kind = .plain)) :
    ∃ s', truncateFront n s = (dropOutcome s.faults.drop (s.buf.size - n), s') ∧
      PostDrop s s' (Spec.lastN n (abs s.buf)) ((abs s.buf).take ((abs s.buf).length - n)) :=
  let ⟨s', e, p, _⟩ := (truncateFront_destroys s n h).postDrop hk
    (by simp [abs_length s.buf h])
  ⟨s', e, p⟩

/-- `clear()` / `Drop for CircularBuffer`: whichever destructor panics, every element is destroyed
exactly once and the buffer is left empty and valid -/
theorem C05_clear (s : Sys) (h : Inv s.buf) (hk : ¬ (s.kind = .byte ∨ s.kind = .plain)) :
    ∃ s', clear s = (dropOutcome s.faults.drop s.buf.size, s') ∧ PostDrop s s' [] (abs s.buf) :=
  let ⟨s', e, p, _⟩ := (clear_destroys s h).postDrop hk (abs_length s.buf h)
  ⟨s', e, p⟩

/-- dropping a drain when a destructor panics: all not-yet-yielded elements are still destroyed
exactly once; the buffer stays in its "empty" state (valid; the remaining elements are leaked, not
duplicated) -/
theorem C05_drain_drop (b0 : CB) (d : Drain) (s : Sys) (hd : DrainInv b0 d s)
    (hk : ¬ (s.kind = .byte ∨ s.kind = .plain))
    (hfire : 1 ≤ s.faults.drop ∧ s.faults.drop ≤ d.ie - d.is) :
    ∃ s', d.drop s = (.error (.user "drop"), s') ∧ s'.buf = s.buf ∧
      s'.log = dropEvents s.kind (((abs b0).drop d.is).take (d.ie - d.is)) ++ s.log := by
  obtain ⟨r, l, hsl, hdt⟩ := Drain.drop_guards b0 d s hd
  rw [dropAll_destructor _ _ hk, ← C09_len b0 d s hd, dropOutcome_fires (n := d.len) hfire] at hdt
  simp only [Drain.drop, ↓bind_run, hsl, hdt]
  exact ⟨_, rfl, rfl, rfl⟩

/-- **`fill(value)` when the `k`-th destructor call panics while the old contents are cleared**
(`1 ≤ k ≤ len`): the panic propagates; every old element was destroyed exactly once, `value` (owned by
the callee) is destroyed exactly once, the buffer is left empty and valid -/
theorem C05_fill (s : Sys) (value : Elem) (h : Inv s.buf)
    (hk : ¬ (s.kind = .byte ∨ s.kind = .plain))
    (hfire : 1 ≤ s.faults.drop ∧ s.faults.drop ≤ s.buf.size) :
    ∃ s', fill value s = (.error (.user "drop"), s') ∧ Inv s'.buf ∧ abs s'.buf = [] ∧
      s'.buf.cap = s.buf.cap ∧
      s'.log = dropEvents s.kind [value] ++ dropEvents s.kind (abs s.buf) ++ s.log := by
  obtain ⟨s1, r1, p1, hf1⟩ := (clear_destroys s h).postDrop hk (abs_length s.buf h)
  rw [dropOutcome_fires hfire] at r1
  have hdv := dropElem_run s1 value (by rw [hf1]; simp only; omega)
  simp only [fill, ↓bind_run, onPanic, r1, hdv]
  exact ⟨_, rfl, p1.inv, p1.abs_eq, p1.cap_eq, by simp only [p1.log_eq, p1.kind_eq, List.append_assoc]⟩

/-- **`clone_from(other)` when the `k`-th destructor call panics while the old contents are cleared**
(`1 ≤ k ≤ len`): the panic propagates before anything is cloned; every old element was destroyed
exactly once and the buffer is left empty and valid -/
theorem C05_clone_from (other : List Elem) (s : Sys) (h : Inv s.buf)
    (hk : ¬ (s.kind = .byte ∨ s.kind = .plain))
    (hfire : 1 ≤ s.faults.drop ∧ s.faults.drop ≤ s.buf.size) :
    ∃ s', cloneFrom other s = (.error (.user "drop"), s') ∧ PostDrop s s' [] (abs s.buf) := by
  obtain ⟨s1, r1, p1⟩ := C05_clear s h hk
  rw [dropOutcome_fires hfire] at r1
  exact ⟨s1, by simp only [cloneFrom, bind_run, r1], p1⟩

/-- **`From<[T; M]>` when the `k`-th destructor call panics while the surplus of the array is destroyed**
(`1 ≤ k ≤ M - N`): the panic propagates; every surplus element was destroyed exactly once, and the
buffer under construction is dropped during unwinding, which destroys each kept element exactly
once — all `M` elements of the array are destroyed exactly once, none twice -/
theorem C05_from_array (s : Sys) (arr : List Elem) (hW : s.buf.cap < W)
    (hk : ¬ (s.kind = .byte ∨ s.kind = .plain))
    (hfire : 1 ≤ s.faults.drop ∧ s.faults.drop ≤ arr.length - s.buf.cap) :
    ∃ s', fromArray arr s = (.error (.user "drop"), s') ∧ Inv s'.buf ∧ abs s'.buf = [] ∧
      s'.buf.cap = s.buf.cap ∧
      s'.log = dropEvents s.kind (Spec.lastN s.buf.cap arr) ++
        (dropEvents s.kind (arr.take (arr.length - s.buf.cap)) ++ s.log) := by
  obtain ⟨b', e, hI, hA, hc, _⟩ := fromArray_eq s arr hW
  rw [e, onPanic, dropAll_destructor _ { s with buf := b' } hk,
    List.length_take_of_le (Nat.sub_le _ _), dropOutcome_fires hfire]
  obtain ⟨b3, r3, h3⟩ := clear_spec { s with
      buf := b'
      log := dropEvents s.kind (arr.take (arr.length - s.buf.cap)) ++ s.log
      faults := { s.faults with drop := s.faults.drop - (arr.length - s.buf.cap) } } hI
    (by simp only; omega)
  simp only [dropBuffer, r3, hA]
  exact ⟨_, rfl, h3.1, h3.2.1, h3.2.2.trans hc, rfl⟩

/-- non-vacuity: the 2nd of 3 destructor calls panics — the outcome is a panic, not `ok` -/
example : dropOutcome 2 3 = .error (.user "drop") := by simp [dropOutcome]

end CircBuf

import CircBuf.Props.C07
import CircBuf.Lemmas.Drain
import CircBuf.Lemmas.Swap
import CircBuf.Lemmas.Views
import CircBuf.Lemmas.Loops
import CircBuf.Lemmas.Contig
import CircBuf.Lemmas.Remove
/-!
# C11 — operations panic exactly when documented and are otherwise total

In the model every arithmetic operation is *checked* (overflow, underflow, remainder by zero), every
slice index is bounds-checked, every `debug_assert!` is an assertion and reading a slot that holds
no element is an error.  A theorem of the form `op s = (.ok r, s')` therefore says that, for that
state and argument, none of these fails.  Such theorems are proved for **every** capacity `< 2^64`
(0 and `usize::MAX` alike), every layout satisfying the invariant and every argument (a natural
number, so `usize::MAX` is an ordinary value):
`push_*`, `try_push_*`, `pop_*`, `remove`, `swap_remove_*`, `truncate_*`, `clear`, `make_contiguous`,
`get`/`front`/`back`/`nth_back`, `as_slices`, `extend`, `fill_with`, iterator and drain steps,
`Drain::drop` (including its loop, which carries a fuel argument that provably suffices).
The documented panics are characterised exactly:
* `swap i j` panics iff `i ≥ len` or `j ≥ len` (`swap_i` / `swap_j`), state unchanged;
* `index i` panics iff `i ≥ len`, state unchanged;
* `range` / `range_mut` / `drain` panic iff (reading the bounds as unbounded naturals) the end
  exceeds the length or the start exceeds the end, with the state unchanged — `Excluded(usize::MAX)`
  as a start and `Included(usize::MAX)` as an end included.
All model functions are total Lean functions (structural recursion; the three loops that are not
structurally bounded by their data — `fill_spare`, `fill_spare_with`, the back-fill loop of `Drain::drop` — carry
fuel with a proof that it suffices).
-/
namespace CircBuf

theorem C11_swap_ok (s : Sys) (i j : Nat) (h : Inv s.buf) (hi : i < s.buf.size) (hj : j < s.buf.size) :
    Refines (swap i j) s () (Spec.swap (abs s.buf) i j) := swap_spec s i j h hi hj

theorem C11_swap_panics_i (s : Sys) (i j : Nat) (hi : ¬ i < s.buf.size) :
    swap i j s = (.error (.doc "swap_i"), s) := swap_panics_i s i j hi

theorem C11_swap_panics_j (s : Sys) (i j : Nat) (hi : i < s.buf.size) (hj : ¬ j < s.buf.size) :
    swap i j s = (.error (.doc "swap_j"), s) := swap_panics_j s i j hi hj

theorem C11_index (s : Sys) (i : Nat) (h : Inv s.buf) :
    index i s = if i < s.buf.size then (.ok (phys s.buf.start s.buf.cap i), s)
      else (.error (.doc "index"), s) := C07_index s i h

theorem C11_range_ok (sb eb : Bound) (s : Sys) (hsb : sb.val < W) (heb : eb.val < W)
    (he : eb.endNat s.buf.size ≤ s.buf.size) (hs : sb.startNat ≤ eb.endNat s.buf.size)
    (hW : s.buf.size < W) :
    translateRange sb eb s = (.ok (sb.startNat, eb.endNat s.buf.size), s) :=
  translateRange_ok sb eb s hsb heb he hs hW

/-- … and panics with one of the documented messages (leaving the state untouched) on every other
range: the end exceeds the length, or the start exceeds the end (bounds read as unbounded naturals,
so `Excluded(usize::MAX)` as a start and `Included(usize::MAX)` as an end are covered). -/
theorem C11_range_panics (sb eb : Bound) (s : Sys) (hsb : sb.val < W) (heb : eb.val < W)
    (hW : s.buf.size < W)
    (hbad : s.buf.size < eb.endNat s.buf.size ∨ eb.endNat s.buf.size < sb.startNat) :
    ∃ k, translateRange sb eb s = (.error (.doc k), s) := by
  have hs := Bound.startE_eq sb hsb
  have he := Bound.endE_eq eb _ heb hW
  by_cases h1 : sb.startNat < W
  · by_cases h2 : eb.endNat s.buf.size < W
    · by_cases h3 : eb.endNat s.buf.size ≤ s.buf.size
      · exact ⟨"range_order", by mrun [translateRange, hs, he]⟩
      · exact ⟨"range_end", by mrun [translateRange, hs, he]⟩
    · exact ⟨"range_end_overflow", by mrun [translateRange, hs, he]⟩
  · exact ⟨"range_start_overflow", by mrun [translateRange, hs]⟩

/-- an invalid range panics before the buffer is touched -/
theorem C11_drain_panics (sb eb : Bound) (s : Sys) (h : Inv s.buf) (hsb : sb.val < W)
    (heb : eb.val < W)
    (hbad : s.buf.size < eb.endNat s.buf.size ∨ eb.endNat s.buf.size < sb.startNat) :
    ∃ k, Drain.new sb eb s = (.error (.doc k), s) := by
  have hW : s.buf.size < W := by have := h.size_le; have := h.cap_lt; omega
  obtain ⟨k, hk⟩ := C11_range_panics sb eb s hsb heb hW hbad
  exact ⟨k, by mrun [Drain.new, hk]⟩

/-- the drain back-fill loop terminates without failing for every capacity, hole and tail -/
theorem C11_backfill_total (fuel : Nat) (s : Sys) (rs re R k : Nat)
    (hc : 0 < s.buf.cap) (hW : s.buf.cap < W) (hst : s.buf.start < s.buf.cap)
    (hrs : rs ≤ re) (hR : re + R ≤ s.buf.cap) (hk : k ≤ R) (hfuel : R - k < fuel) :
    ∃ f', backfillLoop fuel ⟨s.buf.cap, phys s.buf.start s.buf.cap (rs + k)⟩
        ⟨s.buf.cap, phys s.buf.start s.buf.cap (re + k)⟩ (R - k) s =
        (.ok (), { s with buf := { s.buf with items := f' } }) := by
  obtain ⟨f', h, _⟩ := backfillLoop_spec fuel s rs re R k hc hW hst hrs hR hk hfuel
  exact ⟨f', h⟩

/-- non-vacuity: capacity `usize::MAX`, front position `usize::MAX - 1` satisfies the invariant -/
example : Inv ⟨W - 1, 0, W - 2, fun _ => none⟩ := by
  have h8 : 8 ≤ W := by unfold W; decide
  exact ⟨Nat.zero_le _, Or.inl (by simp only; omega), by simp only; omega, nofun⟩

end CircBuf

import CircBuf.Lemmas.Ops
/-!
# C02 — single-element insertion never loses an element silently

For every capacity (0 included), every layout and every length:
* `push_back x` / `push_front x` return **the very element** (same `id`) they displaced — the
  opposite end's element when full, `x` itself when the capacity is zero, nothing when there was
  room — and the contents afterwards are the specification's;
* `try_push_back x` / `try_push_front x` return `Err x` (same `id`) exactly when the buffer is full
  (which includes capacity zero) and then leave the buffer untouched; otherwise `Ok`, the length
  grows by one and `x` is at that end;
* none of the four calls touches the ledger: the post-state differs from the pre-state in the buffer
  only (`{ s with buf := b' }`), so no destructor runs and nothing is created.
-/
namespace CircBuf

/-- what `push_back` hands back -/
def displacedBack (cap : Nat) (xs : List Elem) (x : Elem) : Option Elem :=
  if cap = 0 then some x else if xs.length = cap then xs.head? else none

def displacedFront (cap : Nat) (xs : List Elem) (x : Elem) : Option Elem :=
  if cap = 0 then some x else if xs.length = cap then xs.getLast? else none

/-- the three cases of a push (no capacity, room, full) componentwise, with "room" read as "not full" -/
theorem ite_room_pair {α β : Type} {cap n : Nat} (hn : n ≤ cap) (a c e : α) (b d f : β) :
    (if cap = 0 then (a, b) else if n < cap then (c, d) else (e, f)) =
      (if cap = 0 then a else if n = cap then e else c, if cap = 0 then b else if n = cap then f else d) := by
  by_cases hc : cap = 0
  · simp only [hc, if_true]
  by_cases hf : n = cap
  · simp only [hc, hf, Nat.lt_irrefl, if_false, if_true]
  · simp only [hc, hf, Nat.lt_of_le_of_ne hn hf, if_false, if_true]

theorem C02_push_back (s : Sys) (x : Elem) (h : Inv s.buf) :
    ∃ b', pushBack x s = (.ok (displacedBack s.buf.cap (abs s.buf) x), { s with buf := b' }) ∧
      Inv b' ∧ b'.cap = s.buf.cap ∧
      abs b' = (if s.buf.cap = 0 then abs s.buf
                else if (abs s.buf).length = s.buf.cap then (abs s.buf).tail ++ [x]
                else abs s.buf ++ [x]) := by
  obtain ⟨b', e, hI, hA, hc⟩ := pushBack_spec s x h
  rw [Spec.pushBack, ite_room_pair (abs_length _ h ▸ h.size_le)] at e hA
  -- the second component is `displacedBack` unfolded
  exact ⟨b', e, hI, hc, hA⟩

theorem C02_push_front (s : Sys) (x : Elem) (h : Inv s.buf) :
    ∃ b', pushFront x s = (.ok (displacedFront s.buf.cap (abs s.buf) x), { s with buf := b' }) ∧
      Inv b' ∧ b'.cap = s.buf.cap ∧
      abs b' = (if s.buf.cap = 0 then abs s.buf
                else if (abs s.buf).length = s.buf.cap then x :: (abs s.buf).dropLast
                else x :: abs s.buf) := by
  obtain ⟨b', e, hI, hA, hc⟩ := pushFront_spec s x h
  rw [Spec.pushFront, ite_room_pair (abs_length _ h ▸ h.size_le)] at e hA
  exact ⟨b', e, hI, hc, hA⟩

/-- `try_push_back`: `Err x` **iff** full; then the state is exactly the pre-state -/
theorem C02_try_push_back (s : Sys) (x : Elem) (h : Inv s.buf) :
    (s.buf.size = s.buf.cap → tryPushBack x s = (.ok (.error x), s)) ∧
    (s.buf.size ≠ s.buf.cap → ∃ b', tryPushBack x s = (.ok (.ok ()), { s with buf := b' }) ∧
        Inv b' ∧ b'.cap = s.buf.cap ∧ abs b' = abs s.buf ++ [x] ∧ b'.size = s.buf.size + 1) := by
  refine ⟨fun hf => tryPushBack_full s x (by omega), fun hf => ?_⟩
  have hroom := Nat.lt_of_le_of_ne h.size_le hf
  exact ⟨_, tryPushBack_room s x h hroom, (s.buf.snoc_spec x h hroom).1, rfl,
    (s.buf.snoc_spec x h hroom).2, rfl⟩

theorem C02_try_push_front (s : Sys) (x : Elem) (h : Inv s.buf) :
    (s.buf.size = s.buf.cap → tryPushFront x s = (.ok (.error x), s)) ∧
    (s.buf.size ≠ s.buf.cap → ∃ b', tryPushFront x s = (.ok (.ok ()), { s with buf := b' }) ∧
        Inv b' ∧ b'.cap = s.buf.cap ∧ abs b' = x :: abs s.buf ∧ b'.size = s.buf.size + 1) := by
  refine ⟨fun hf => tryPushFront_full s x (by omega), fun hf => ?_⟩
  have hroom := Nat.lt_of_le_of_ne h.size_le hf
  exact ⟨_, tryPushFront_room s x h hroom, (s.buf.cons_spec x h hroom).1, rfl,
    (s.buf.cons_spec x h hroom).2, rfl⟩

/-- non-vacuity: the empty buffer of any capacity below `2^64` satisfies the invariant
(capacity 0 included), so the theorems above apply from `new()` on. -/
theorem inv_new (cap : Nat) (hc : cap < W) : Inv (CB.new cap) := (inv_new' cap hc).1

example : Inv (CB.new 0) ∧ (CB.new 0).size = (CB.new 0).cap := ⟨inv_new 0 W_pos, rfl⟩

end CircBuf

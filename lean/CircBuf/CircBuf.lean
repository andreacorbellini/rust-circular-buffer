-- Root of the library: every module but the three drivers (their own targets), by group (DESIGN.md §9.1 and §9.6 say
-- what each is for).
-- the machine word, the state monad, the model, its specification
import CircBuf.Word
import CircBuf.Mem
import CircBuf.Model
import CircBuf.Spec
-- translated from the source on every run, with what the translation is expressed in and compared with
import CircBuf.GenPrelude
import CircBuf.Generated.AddMod
import CircBuf.Generated.Core
import CircBuf.Generated.TypeDefs
import CircBuf.Types
-- lemmas about the model
import CircBuf.Lemmas.AddModSpec
import CircBuf.Lemmas.Basic
import CircBuf.Lemmas.Run
import CircBuf.Lemmas.Abs
import CircBuf.Lemmas.Refine
import CircBuf.Lemmas.Ops
import CircBuf.Lemmas.Swap
import CircBuf.Lemmas.Remove
import CircBuf.Lemmas.Views
import CircBuf.Lemmas.Contig
import CircBuf.Lemmas.DropRange
import CircBuf.Lemmas.Truncate
import CircBuf.Lemmas.Loops
import CircBuf.Lemmas.Iter
import CircBuf.Lemmas.Backfill
import CircBuf.Lemmas.Drain
import CircBuf.Lemmas.Contents
import CircBuf.Lemmas.Clones
import CircBuf.Lemmas.ExtendSlice
import CircBuf.Lemmas.Ctor
import CircBuf.Lemmas.Fill
import CircBuf.Lemmas.ToVec
import CircBuf.Lemmas.IO
import CircBuf.Lemmas.Cmp
import CircBuf.Lemmas.Conserve
import CircBuf.Lemmas.History
import CircBuf.Lemmas.HistoryFull
import CircBuf.Lemmas.NonDefect
-- the properties, about the model
import CircBuf.Props.C01
import CircBuf.Props.C02
import CircBuf.Props.C03
import CircBuf.Props.C04
import CircBuf.Props.C05
import CircBuf.Props.C06
import CircBuf.Props.C07
import CircBuf.Props.C08
import CircBuf.Props.C09
import CircBuf.Props.C10
import CircBuf.Props.C11
import CircBuf.Props.C12
import CircBuf.Props.C13
import CircBuf.Props.C14
import CircBuf.Props.C15
import CircBuf.Props.C17
import CircBuf.Props.C19
import CircBuf.Props.C20
-- the ties between the translated functions and the model's
import CircBuf.Lemmas.TieAttr
import CircBuf.Lemmas.TieTac
import CircBuf.Lemmas.LiveEq
import CircBuf.Lemmas.While
import CircBuf.Lemmas.Tie.Index
import CircBuf.Lemmas.Tie.Access
import CircBuf.Lemmas.Tie.PushPop
import CircBuf.Lemmas.Tie.Swap
import CircBuf.Lemmas.Tie.Truncate
import CircBuf.Lemmas.Tie.Remove
import CircBuf.Lemmas.Tie.Fill
import CircBuf.Lemmas.Tie.IterTie
import CircBuf.Lemmas.Tie.IterSpec
import CircBuf.Lemmas.Tie.DrainTie
import CircBuf.Lemmas.Tie.Live
import CircBuf.Lemmas.CoreTie
-- the properties once more, about the translated functions
import CircBuf.Props.Src.C01
import CircBuf.Props.Src.C01Fill
import CircBuf.Props.Src.C02
import CircBuf.Props.Src.C04
import CircBuf.Props.Src.C05
import CircBuf.Props.Src.C07
import CircBuf.Props.Src.C08
import CircBuf.Props.Src.C08Step
import CircBuf.Props.Src.C09
import CircBuf.Props.Src.C11
import CircBuf.Props.Src.C20
import CircBuf.Props.Src.History
